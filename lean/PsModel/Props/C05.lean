import PsModel.Lemmas.C05
/-!
# C05 – property theorems: `state_check_now`, `state_hold`, `state_hold_false` timing

`New.current` / `New.preFix` are the deviation flags of the new subsystem's `_cycle` after / before the `fix:` commits
`d4cc584`, `9670c81` and `e7ed034`; `New.holdRuns` is the machine with the current flags.  `WaitUntil.firstReturn` /
`WaitUntil.firstReturnPreFix` are legacy `task.wait_until` after / before fix `07b3e39`.  On the current tree all four
machines satisfy the FULL statement; the `_regress_` theorems are about the pre-fix values.
`Spec.holdRuns cfg b0 hist` is the documented timeline; `Legacy.holdRuns` the loop-variable machine of
`trigger_watch`; `WaitUntil.firstReturn` the one of legacy `task.wait_until`; `New.holdRuns` / `New.firstReturn` the
machine of `StateTriggerDecorator` (decorator / inside `task.wait_until`).  The general theorems are for every configuration
(any `state_hold`, `state_hold_false` in ms, any `state_check_now`), every initial truth and EVERY history
satisfying `NoTies` (strictly increasing event times that avoid the hold deadlines – decidable).
-/
namespace PsModel.C05
open Spec

/-- **Legacy decorators: full.**  The loop variables of `trigger_watch` realise the documented timeline: same runs, at
the same virtual times, with the arguments of the FIRST candidate of each delay. -/
theorem C05_legacy (cfg : Cfg) (b0 : Bool) (hist : List Evt) (h : NoTies cfg hist) :
    Legacy.holdRuns cfg b0 hist = Spec.holdRuns cfg b0 hist :=
  congrArg SState.runs (legacy_sim cfg b0 hist h)

/-- **Legacy `task.wait_until` = first run of the decorator loop** – every configuration, every history (no grid
needed).  Full since fix `07b3e39` (before it: not for `state_check_now ∧ state_hold_false ∧ initially false`, see
`C05_waituntil_regress_init_false`). -/
theorem C05_waituntil_lockstep (cfg : Cfg) (b0 : Bool) (hist : List Evt) :
    WaitUntil.firstReturn cfg b0 hist = (Legacy.holdRuns cfg b0 hist).head? := by
  rcases wj_drive cfg hist _ _ (wj_start cfg b0) with ⟨h1, _, h3⟩ | ⟨r, h1, h2⟩
  · exact h1.trans (congrArg List.head? h3).symm
  · exact h1.trans h2.symm

/-- **Legacy `task.wait_until`: full.**  The first return is the first run of the timeline. -/
theorem C05_waituntil (cfg : Cfg) (b0 : Bool) (hist : List Evt) (h : NoTies cfg hist) :
    WaitUntil.firstReturn cfg b0 hist = (Spec.holdRuns cfg b0 hist).head? := by
  rw [C05_waituntil_lockstep cfg b0 hist, C05_legacy cfg b0 hist h]

/-- regression (fixed by `07b3e39`): `task.wait_until(state_trigger=…, state_hold_false=0)` (check_now defaults to
True), expression false at the call.  BEFORE the fix the initial False was not recorded (`state_false_time` stayed
`None`), the first true evaluation at 2 s was ignored and the call returned only at 6 s after a later False; now it
returns at 2 s like the timeline. -/
theorem C05_waituntil_regress_init_false :
    let cfg : Cfg := ⟨true, none, some 0⟩
    let hist : List Evt := [⟨2000, .eval true, 1⟩, ⟨4000, .eval false, 2⟩, ⟨6000, .eval true, 3⟩]
    NoTies cfg hist ∧ WaitUntil.firstReturnPreFix cfg false hist = some (6000, 3) ∧
      WaitUntil.firstReturn cfg false hist = some (2000, 1) ∧
      (Spec.holdRuns cfg false hist).head? = some (2000, 1) := by
  decide

/-- **New subsystem, decorators: full** (code after the fixes `d4cc584`, `9670c81`, `e7ed034`): for every
configuration, every initial truth and EVERY no-ties history – messages that cause no evaluation included, with or
without `state_hold` / `state_hold_false` / `state_check_now` – `_cycle` produces exactly the timeline's runs: same
times, and the arguments of the first candidate of each delay. -/
theorem C05_new (cfg : Cfg) (b0 : Bool) (hist : List Evt) (h : NoTies cfg hist) :
    New.holdRuns cfg b0 hist = Spec.holdRuns cfg b0 hist :=
  congrArg SState.runs (new_sim cfg false b0 hist h)

/-- **New subsystem, `task.wait_until`: full.**  The first return is the first run of the timeline. -/
theorem C05_new_waituntil (cfg : Cfg) (b0 : Bool) (hist : List Evt) (h : NoTies cfg hist) :
    New.firstReturn cfg b0 hist = (Spec.holdRuns cfg b0 hist).head? :=
  congrArg (fun s => s.runs.head?) (new_sim cfg true b0 hist h)

/-- regression (#13, fixed by `d4cc584`): `state_hold=5`, true at 1 s, attribute-only update at 3 s.  The PRE-FIX
`_cycle` (`New.preFix`) handled the message as `trig_ok = False`: the hold was cancelled and the function never ran;
the code as it is now runs at 6 s like the timeline and legacy. -/
theorem C05_new_regress_attr_update_cancels_hold :
    let cfg : Cfg := ⟨false, some 5000, none⟩
    let hist : List Evt := [⟨1000, .eval true, 1⟩, ⟨3000, .skip, 2⟩]
    NoTies cfg hist ∧ New.holdRunsF New.preFix cfg false hist = [] ∧ New.holdRuns cfg false hist = [(6000, 1)] ∧
      Spec.holdRuns cfg false hist = [(6000, 1)] ∧ Legacy.holdRuns cfg false hist = [(6000, 1)] := by
  decide

/-- regression (#14, fixed by `9670c81`): two true evaluations during a hold.  PRE-FIX the run got the LATEST event's
arguments (`last_func_args` overwritten by every message); now it gets the first event's, like the timeline. -/
theorem C05_new_regress_latest_args :
    let cfg : Cfg := ⟨false, some 5000, none⟩
    let hist : List Evt := [⟨1000, .eval true, 1⟩, ⟨3000, .eval true, 2⟩]
    NoTies cfg hist ∧ New.holdRunsF New.preFix cfg false hist = [(6000, 2)] ∧
      New.holdRuns cfg false hist = [(6000, 1)] ∧ Spec.holdRuns cfg false hist = [(6000, 1)] := by
  decide

/-- regression (same root as #13, fixed by `d4cc584`): `state_hold_false=2`, expression true since start, an
attribute-only update at 1 s.  PRE-FIX it started a "false" period although nothing was evaluated and the true
evaluation at 5 s fired; now, like timeline and legacy: no run. -/
theorem C05_new_regress_skip_starts_false_period :
    let cfg : Cfg := ⟨false, none, some 2000⟩
    let hist : List Evt := [⟨1000, .skip, 1⟩, ⟨5000, .eval true, 2⟩]
    NoTies cfg hist ∧ New.holdRunsF New.preFix cfg true hist = [(5000, 2)] ∧ New.holdRuns cfg true hist = [] ∧
      Spec.holdRuns cfg true hist = [] ∧ Legacy.holdRuns cfg true hist = [] := by
  decide

/-- regression (fixed by `e7ed034`): `state_check_now=True` with `state_hold_false`, expression true at definition
time.  BEFORE the fix the documented trigger at start did not happen in the new subsystem (`_check_new_state` demanded
a preceding false period); now it does, like timeline and legacy. -/
theorem C05_new_regress_checknow_holdfalse_no_start :
    let cfg : Cfg := ⟨true, none, some 2000⟩
    New.holdRunsF New.preFix cfg true [] = [] ∧ New.holdRuns cfg true [] = [(0, 0)] ∧
      Spec.holdRuns cfg true [] = [(0, 0)] ∧ Legacy.holdRuns cfg true [] = [(0, 0)] := by
  decide

/-- regression (fixed by `e7ed034`): new `task.wait_until(state_hold=5, state_hold_false=10)`, expression true at the
call.  BEFORE the fix `state_hold_false` was reset to `None` for good, so after False at 1 s the True at 2 s started a
new hold and the call returned at 7 s; now, like timeline and legacy: the expression was false for 1 s only – no
return. -/
theorem C05_new_waituntil_regress_holdfalse_disabled :
    let cfg : Cfg := ⟨true, some 5000, some 10000⟩
    let hist : List Evt := [⟨1000, .eval false, 1⟩, ⟨2000, .eval true, 2⟩]
    NoTies cfg hist ∧ New.firstReturnF New.preFix cfg true hist = some (7000, 2) ∧
      New.firstReturn cfg true hist = none ∧ (Spec.holdRuns cfg true hist).head? = none ∧
      WaitUntil.firstReturn cfg true hist = none := by
  decide

/-- **Legacy `task.wait_until(…, timeout=T)`: first of hold and timeout.**  For every configuration, initial truth,
no-ties history and every timeout `T > 0` that coincides with no event: the call returns the timeline's first run if
that happens before `T`, and `{"trigger_type": "timeout"}` at `T` otherwise – in particular a `state_hold` that is
still running at `T` does NOT turn into a state trigger. -/
theorem C05_waituntil_timeout (T : Nat) (hT : 0 < T) (cfg : Cfg) (b0 : Bool) (hist : List Evt) (h : NoTies cfg hist)
    (hne : ∀ e ∈ hist, e.t ≠ T) :
    WaitUntil.firstReturnT T cfg b0 hist = cutT T (Spec.holdRuns cfg b0 hist).head? :=
  (driveT_eq T cfg hist _ (fun _ hr => WaitUntil.start_ret hr ▸ hT) hne (grid_sorted h.2)).trans
    (congrArg (cutT T) (C05_waituntil cfg b0 hist h))

/-- **New `task.wait_until(…, timeout=T)`** (first dispatch of the state-trigger decorator and the timeout decorator). -/
theorem C05_new_waituntil_timeout (T : Nat) (cfg : Cfg) (b0 : Bool) (hist : List Evt) (h : NoTies cfg hist) :
    New.firstReturnT T cfg b0 hist = cutT T (Spec.holdRuns cfg b0 hist).head? := by
  unfold New.firstReturnT
  rw [C05_new_waituntil cfg b0 hist h]

/-- **Triggers made only of any-change names** (`namesOnly`): whatever `state_check_now` / `state_hold_false` /
the current values are, all four machines produce the timeline of a trigger that is NOT checked at the start and on
which every match is a candidate – in particular nothing happens at definition time (`C05_names_only_no_start`: with an
empty history there is no run and `task.wait_until` does not return), also with an explicit `state_check_now=True`. -/
theorem C05_names_only (cfg : Cfg) (b0 : Bool) (hist : List Evt) (h : NoTies (namesOnly cfg) hist) :
    Legacy.holdRuns (namesOnly cfg) b0 hist = Spec.holdRuns (namesOnly cfg) false hist ∧
      New.holdRuns (namesOnly cfg) b0 hist = Spec.holdRuns (namesOnly cfg) false hist ∧
      WaitUntil.firstReturn (namesOnly cfg) b0 hist = (Spec.holdRuns (namesOnly cfg) false hist).head? ∧
      New.firstReturn (namesOnly cfg) b0 hist = (Spec.holdRuns (namesOnly cfg) false hist).head? := by
  -- the timeline of such a trigger does not look at the initial truth
  have hb : Spec.holdRuns (namesOnly cfg) b0 hist = Spec.holdRuns (namesOnly cfg) false hist := by cases b0 <;> rfl
  rw [← hb]
  exact ⟨C05_legacy _ b0 hist h, C05_new _ b0 hist h, C05_waituntil _ b0 hist h, C05_new_waituntil _ b0 hist h⟩

theorem C05_names_only_no_start (cfg : Cfg) (b0 : Bool) :
    Spec.holdRuns (namesOnly cfg) b0 [] = [] ∧ Legacy.holdRuns (namesOnly cfg) b0 [] = [] ∧
      New.holdRuns (namesOnly cfg) b0 [] = [] ∧ WaitUntil.firstReturn (namesOnly cfg) b0 [] = none ∧
      New.firstReturn (namesOnly cfg) b0 [] = none :=
  ⟨rfl, rfl, rfl, rfl, rfl⟩

/-- **Irrelevance (timeline).**  Changes that cause no evaluation – unwatched entities, attribute-only updates of a
value-watched entity – can be inserted anywhere or removed: the timeline's runs do not change. -/
theorem C05_irrelevant (cfg : Cfg) (b0 : Bool) (hist : List Evt) (hs : hist.Pairwise (fun a b => a.t ≤ b.t)) :
    Spec.holdRuns cfg b0 (hist.filter isEval) = Spec.holdRuns cfg b0 hist := by
  unfold Spec.holdRuns
  rw [spec_irrelevant cfg hist _ hs]

/-- **Irrelevance (legacy loop).**  The same for the real loop variables: no timer is touched by such changes. -/
theorem C05_irrelevant_legacy (cfg : Cfg) (b0 : Bool) (hist : List Evt) (h : NoTies cfg hist) :
    Legacy.holdRuns cfg b0 (hist.filter isEval) = Legacy.holdRuns cfg b0 hist := by
  rw [C05_legacy cfg b0 _ (noTies_filter isEval h), C05_legacy cfg b0 _ h, C05_irrelevant cfg b0 hist (grid_sorted h.2)]

/-- **Irrelevance (new subsystem, current code).**  Since `d4cc584` no timer of `_cycle` is touched by such changes
either. -/
theorem C05_irrelevant_new (cfg : Cfg) (b0 : Bool) (hist : List Evt) (h : NoTies cfg hist) :
    New.holdRuns cfg b0 (hist.filter isEval) = New.holdRuns cfg b0 hist := by
  rw [C05_new cfg b0 _ (noTies_filter isEval h), C05_new cfg b0 _ h, C05_irrelevant cfg b0 hist (grid_sorted h.2)]

/-- **The start-up state check happens exactly once, with or without a start-up time trigger on the same function**
(legacy: one `trigger_watch` loop serves both).  The head of the loop consumes `run_on_startup` and
`check_state_expr_on_start` in consecutive iterations: the branches taken are `startup` (iff the function has a
start-up time trigger), then `check` (iff `state_check_now` or `state_hold_false` is set), then the loop waits; the
function is started once for `"startup"`, and the loop variables after the head are exactly those of a function without
time trigger (`Legacy.start`). -/
theorem C05_startup_check_once (cfg : Cfg) (tt b0 : Bool) :
    Legacy.startT cfg tt b0 =
      (Legacy.start cfg b0, (if tt then 1 else 0),
        (if tt then [Legacy.Branch.startup] else []) ++
          (if cfg.checkNow || cfg.holdFalse.isSome then [Legacy.Branch.check] else []) ++ [Legacy.Branch.wait]) := by
  unfold Legacy.startT Legacy.start
  cases tt <;> cases (cfg.checkNow || cfg.holdFalse.isSome) <;> rfl

/-- **Legacy decorators with a start-up time trigger on the same function: full.**  With or without `run_on_startup` (`tt`;
other time-trigger wake-ups are not in the model) the state runs are the documented timeline, and a start-up time trigger
starts the function exactly once more. -/
theorem C05_legacy_with_time_trigger (cfg : Cfg) (tt b0 : Bool) (hist : List Evt) (h : NoTies cfg hist) :
    Legacy.holdRunsT cfg tt b0 hist = (Spec.holdRuns cfg b0 hist, if tt then 1 else 0) := by
  rw [Legacy.holdRunsT, C05_startup_check_once cfg tt b0]
  exact congrArg (fun r => (r, if tt = true then 1 else 0)) (C05_legacy cfg b0 hist h)

/-- the flag resets are what makes the branches one-shot: without `self.run_on_startup = False` the loop would take the
start-up branch for ever and never check the state trigger (fuel-bounded witness) -/
example :
    (Legacy.startLoopF ⟨false, true⟩ ⟨true, none, none⟩ true 3 ⟨true, true⟩ Legacy.init 0 []).2.2 =
      [.startup, .startup, .startup] := by decide

/-- **The shapes of the code the machines rely on** – read off `trigger_watch`, `TrigTime.wait_until` and
`StateTriggerDecorator` on every run (`tools/extractors/C05.py`): the start condition `state_check_now or state_hold_false
is not None` in all three, `state_hold_false` handled before `state_hold` with `is not None` tests, the delay stamped once
and cancelled by a false evaluation, the hold block after the timeout block with a strict `<` in `wait_until`, `initial`
bypassing `state_hold_false`, `>=` in both hold comparisons and `last_func_args` kept while a hold is pending in the new
subsystem. -/
theorem C05_shapes : legacyShapeOK = true ∧ waitUntilShapeOK = true ∧ newShapeOK = true := by decide

/-- non-vacuity: a history on the grid where the initial check starts a hold that fires (2.5 s), a hold that is
cancelled (true 5 s, false 7 s), a `state_hold_false` rejection (true 8 s after 1 s of false), `skip`/`unrelated`
changes in between, and a hold that fires with the first candidate's arguments (true 12 s, true 13 s → run at 14.5 s) -/
example :
    let cfg : Cfg := ⟨true, some 2500, some 1500⟩
    let hist : List Evt := [⟨3000, .eval false, 1⟩, ⟨5000, .eval true, 2⟩, ⟨6000, .skip, 3⟩, ⟨7000, .eval false, 4⟩,
      ⟨8000, .eval true, 5⟩, ⟨9000, .unrelated, 6⟩, ⟨10000, .eval false, 7⟩, ⟨12000, .eval true, 8⟩, ⟨13000, .eval true, 9⟩]
    NoTies cfg hist ∧ Legacy.holdRuns cfg true hist = [(2500, 0), (14500, 8)] := by
  decide

end PsModel.C05
