import PsModel.Lemmas.C07
/-!
# C07 – property theorems (`@state_active`, `@time_active`, `hold_off` gate every trigger correctly)

`Legacy.*` mirrors `trigger.py`, `New.*` the decorator subsystem; `Flags.current` is the code as it is today (after the
fixes e0254f9, 07af69d, 4801d95 and the fix of the early hold-off stamp C07-F2), `Flags.preFix` the code before those fixes
and `Flags.preFixStamp` the code before the last of them (kept for the `_regress_` theorems), `Flags.repaired` with every
deviation switched off (see `findings.d/C07.json`).
-/
namespace PsModel.C07

/-! ## windows -/

/-- **Window combination.**  For every list of specifications (any length, any mix of signs) and every time,
`timer_active_check` returns: an exception iff some entry's dates do not exist, otherwise
"(no positive entry, or some positive entry matches) and no negated entry matches". -/
theorem C07_window (P : Params) (specs : List ASpec) (now startup : Time) :
    activeCheck P specs now startup =
      if Spec.resolves P now startup specs then some (Spec.window P specs now startup) else none :=
  activeCheck_eq P specs now startup

/-- only negated entries (or none at all): active exactly when none of them matches -/
theorem C07_only_negatives (P : Params) (specs : List ASpec) (now startup : Time)
    (hneg : ∀ a ∈ specs, a.neg = true) (hres : Spec.resolves P now startup specs = true) :
    activeCheck P specs now startup = some (specs.all (fun a => !Spec.hitB P now startup a)) := by
  rw [C07_window, hres, window_neg P specs now startup hneg]
  rfl

/-- **`range()` includes both end points** and nothing outside them (start ≤ end) -/
theorem C07_range_inclusive (s e now : Int) (h : s ≤ e) :
    (rangeTest s e now = true ↔ s ≤ now ∧ now ≤ e) ∧
    rangeTest s e s = true ∧ rangeTest s e e = true ∧
    rangeTest s e (s - 1) = false ∧ rangeTest s e (e + 1) = false := by
  have key : ∀ t, rangeTest s e t = true ↔ s ≤ t ∧ t ≤ e := fun t => by
    rw [rangeTest_iff, Spec.inRange, if_pos h]
  refine ⟨key now, (key s).mpr ⟨Int.le_refl s, h⟩, (key e).mpr ⟨h, Int.le_refl e⟩, ?_, ?_⟩
  · exact Bool.eq_false_iff.mpr fun h' => by have := (key _).mp h'; omega
  · exact Bool.eq_false_iff.mpr fun h' => by have := (key _).mp h'; omega

/-- **a range whose end precedes its start wraps**: everything except the open gap between end and start -/
theorem C07_range_wrap (s e now : Int) (h : e < s) :
    (rangeTest s e now = true ↔ ¬(e < now ∧ now < s)) ∧
    rangeTest s e s = true ∧ rangeTest s e e = true ∧
    (e + 1 < s → rangeTest s e (e + 1) = false ∧ rangeTest s e (s - 1) = false) := by
  have key : ∀ t, rangeTest s e t = true ↔ s ≤ t ∨ t ≤ e := fun t => by
    rw [rangeTest_iff, Spec.inRange, if_neg (by omega)]
  refine ⟨(key now).trans (by omega), (key s).mpr (Or.inl (Int.le_refl s)), (key e).mpr (Or.inr (Int.le_refl e)),
    fun hgap => ⟨?_, ?_⟩⟩
  · exact Bool.eq_false_iff.mpr fun h' => by have := (key _).mp h'; omega
  · exact Bool.eq_false_iff.mpr fun h' => by have := (key _).mp h'; omega

/-- **Daily windows denote times of day.**  `range(h1:m1:s1, h2:m2:s2)` (no dates) matches at `now` iff the time of day
of `now` lies in `[a, b]`, or – when `b < a` – at or after `a` or at or before `b` ("wraps around midnight"),
whatever the date.  Goes through `parse_date_time` and the proved calendar round trip. -/
theorem C07_daily_window (P : Params) (h1 m1 u1 h2 m2 u2 : Int) (now startup : Time)
    (hday : dayInRange (dayOf now))
    (ha0 : 0 ≤ u1 + usMin * (m1 + 60 * h1)) (ha1 : u1 + usMin * (m1 + 60 * h1) < usDay) :
    let a := u1 + usMin * (m1 + 60 * h1)
    let b := u2 + usMin * (m2 + 60 * h2)
    thisMatch P (.range (.at .none (.hms h1 m1 u1) 0) (.at .none (.hms h2 m2 u2) 0)) now startup =
      some (decide (if a ≤ b then a ≤ todOf now ∧ todOf now ≤ b else a ≤ todOf now ∨ todOf now ≤ b)) := by
  exact thisMatch_daily P _ _ 0 0 _ _ now startup hday (fun _ => by simp only [finishDT, timeStage, Int.add_zero])
    (fun _ => by simp only [finishDT, timeStage, Int.add_zero]) ha0 ha1

/-! ## legacy subsystem -/

/-- **Legacy gates correctly whenever `AstEval.eval` resets its table on an empty dictionary** (any flag value with
`staleLocals = false`).  For every configuration and every sequence of trigger occurrences and direct calls on a monotonic
clock, the function runs for exactly the occurrences the specification accepts: trigger condition held, `@state_active`
truthy on the triggering values, the occurrence time inside the window, and no accepted occurrence less than `hold_off` before. -/
theorem C07_legacy_repaired (F : Flags) (hF : F.staleLocals = false) (P : Params) (cfg : Cfg) (es : List Ev)
    (hm : Mono es none) :
    Legacy.run F P cfg es GState.init = Spec.runs P cfg es [] :=
  Legacy.run_spec F P cfg es (fun _ _ h => by rw [hF] at h; cases h) hm

/-- **The legacy subsystem as it is gates correctly** – full statement, no fragment (since fix 4801d95). -/
theorem C07_legacy (P : Params) (cfg : Cfg) (es : List Ev) (hm : Mono es none) :
    Legacy.run Flags.current P cfg es GState.init = Spec.runs P cfg es [] :=
  C07_legacy_repaired Flags.current rfl P cfg es hm

/-- **Legacy, several trigger decorators of one type** (one `TrigInfo` task per k-th decorator, each with its own
`last_trig_time`): the function is gated like the specification demands – every task applies the same `@state_active` /
`@time_active` guards to its occurrences – as long as all occurrences come from one task, or no `hold_off` is given. -/
theorem C07_legacy_groups_partial (P : Params) (cfg : Cfg) (es : List (Nat × Ev)) (hm : Mono (es.map (·.2)) none)
    (h : (∃ k, ∀ e ∈ es, e.1 = k) ∨ cfg.timeActive = false ∨ cfg.holdOff = none) :
    Legacy.runGroups Flags.current P cfg es (fun _ => GState.init) = Spec.runs P cfg (es.map (·.2)) [] := by
  rcases h with ⟨k, hk⟩ | hh
  · rw [Legacy.runGroups_single Flags.current P cfg k es _ hk]
    exact C07_legacy P cfg _ hm
  · rw [Legacy.runGroups_holdfree Flags.current rfl P cfg hh es _ GState.init]
    exact C07_legacy P cfg _ hm

/-! ## new subsystem -/

/-- **The new subsystem with every deviation switched off gates correctly** (`Flags.repaired` is `Flags.current`: the same
statement as `C07_new`). -/
theorem C07_new_repaired (P : Params) (cfg : Cfg) (es : List Ev) (hm : Mono es none) :
    New.run Flags.repaired P cfg es GState.init = Spec.runs P cfg es [] :=
  New.run_spec _ P cfg es (fun h => absurd h (by decide)) (fun o _ => New.good_of_flags _ P cfg o rfl rfl rfl) hm

/-- **The new subsystem as it is** (after the fixes e0254f9, 07af69d, 4801d95 and the fix of C07-F2: `last_trig_time` is stamped
by `dispatch_accepted` once every handler has passed) gates correctly for every configuration – whatever the order of the guard
decorators –, every specification list, every `@state_active` value and every history. -/
theorem C07_new (P : Params) (cfg : Cfg) (es : List Ev) (hm : Mono es none) :
    New.run Flags.current P cfg es GState.init = Spec.runs P cfg es [] :=
  C07_new_repaired P cfg es hm

/-- **The new subsystem before the fix of C07-F2** (`last_trig_time` stamped inside the time handler) gated correctly on the
configurations in which the early stamp cannot show: `@state_active` listed above `@time_active`, or absent, or no positive
`hold_off`. -/
theorem C07_new_partial (P : Params) (cfg : Cfg) (es : List Ev) (hm : Mono es none)
    (hord : cfg.saFirst = true ∨ cfg.stateActive = false ∨ Spec.holdN cfg = 0) :
    New.run Flags.preFixStamp P cfg es GState.init = Spec.runs P cfg es [] :=
  New.run_spec _ P cfg es (fun _ => hord) (fun o _ => New.good_of_flags _ P cfg o rfl rfl rfl) hm

/-- 2024-06-03 12:00:00 (a Monday) -/
def wNoon : Int := 1717416000000000

def wRange (h1 m1 h2 m2 : Int) (neg : Bool) : ASpec :=
  ⟨neg, .range (.at .none (.hms h1 m1 0) 0) (.at .none (.hms h2 m2 0) 0)⟩

/-- an occurrence at 12:00 whose trigger condition held and whose variable dictionary is non-empty -/
def wOcc (id t : Nat) (sa : AVal) : Ev := .occ ⟨id, t, wNoon, true, true, sa, []⟩

/-- regression for C07-F1 (fixed by e0254f9): `@time_active("range(11:00,13:00)", "not range(11:30,12:30)")` at 12:00 – the
pre-fix code checked each argument alone and ran the function; the code as it is does not, like the spec and legacy. -/
theorem C07_new_regress_mixed_sign :
    let cfg : Cfg := ⟨false, true, [wRange 11 0 13 0 false, wRange 11 30 12 30 true], none, false, wNoon⟩
    New.run Flags.preFix Params.trivial cfg [wOcc 1 1000 .truthy] GState.init = [true] ∧
    New.run Flags.current Params.trivial cfg [wOcc 1 1000 .truthy] GState.init = [false] ∧
    Spec.runs Params.trivial cfg [wOcc 1 1000 .truthy] [] = [false] ∧
    Legacy.run Flags.current Params.trivial cfg [wOcc 1 1000 .truthy] GState.init = [false] := by
  decide

/-- regression for C07-F1, second shape: two negated windows, the time lies in the first. -/
theorem C07_new_regress_two_negatives :
    let cfg : Cfg := ⟨false, true, [wRange 11 30 12 30 true, wRange 13 0 14 0 true], none, false, wNoon⟩
    New.run Flags.preFix Params.trivial cfg [wOcc 1 1000 .truthy] GState.init = [true] ∧
    New.run Flags.current Params.trivial cfg [wOcc 1 1000 .truthy] GState.init = [false] ∧
    Spec.runs Params.trivial cfg [wOcc 1 1000 .truthy] [] = [false] := by
  decide

/-- regression for C07-F3 (fixed by 07af69d): a `@state_active` expression evaluating to `0` / `None` / `""` let the pre-fix
dispatch go on (`is False`); now it stops it. -/
theorem C07_new_regress_falsy_state_active :
    let cfg : Cfg := ⟨true, false, [], none, true, wNoon⟩
    New.run Flags.preFix Params.trivial cfg [wOcc 1 1000 .falsy] GState.init = [true] ∧
    New.run Flags.current Params.trivial cfg [wOcc 1 1000 .falsy] GState.init = [false] ∧
    Spec.runs Params.trivial cfg [wOcc 1 1000 .falsy] [] = [false] ∧
    Legacy.run Flags.current Params.trivial cfg [wOcc 1 1000 .falsy] GState.init = [false] := by
  decide

/-- regression for C07-F2 (fixed): `@time_active(hold_off=10)` above `@state_active`: before the fix an occurrence rejected by
`@state_active` at 1 s stamped `last_trig_time` and the first acceptable occurrence at 6 s was suppressed although nothing had
been accepted before; the code as it is runs the function at 6 s and 17 s, like the legacy subsystem and the specification. -/
theorem C07_new_regress_early_stamp :
    let cfg : Cfg := ⟨true, true, [], some 10000, false, wNoon⟩
    let es := [wOcc 1 1000 .isFalse, wOcc 2 6000 .truthy, wOcc 3 11000 .truthy, wOcc 4 17000 .truthy]
    New.run Flags.preFixStamp Params.trivial cfg es GState.init = [false, false, true, false] ∧
    New.run Flags.current Params.trivial cfg es GState.init = [false, true, false, true] ∧
    Spec.runs Params.trivial cfg es [] = [false, true, false, true] ∧
    Legacy.run Flags.current Params.trivial cfg es GState.init = [false, true, false, true] := by
  decide

/-- regression for C07-F4 (fixed by 4801d95, both subsystems): `@state_active("pyscript.en != '1'")`.  First occurrence: the
entity does not exist, the dictionary `{pyscript.en: None}` is loaded, the value is truthy, the function runs.  Second
occurrence: the entity now exists with value `'1'`, the dictionary is empty – the pre-fix code kept the old table, still saw
`None` and ran the function; now the table is reset and the function does not run. -/
theorem C07_regress_stale_locals :
    let cfg : Cfg := ⟨true, false, [], none, true, wNoon⟩
    let es := [Ev.occ ⟨1, 500, wNoon, true, true, .truthy, []⟩, Ev.occ ⟨2, 1750, wNoon, true, false, .isFalse, [(1, .truthy)]⟩]
    Legacy.run Flags.preFix Params.trivial cfg es GState.init = [true, true] ∧
    New.run Flags.preFix Params.trivial cfg es GState.init = [true, true] ∧
    Legacy.run Flags.current Params.trivial cfg es GState.init = [true, false] ∧
    New.run Flags.current Params.trivial cfg es GState.init = [true, false] ∧
    Spec.runs Params.trivial cfg es [] = [true, false] := by
  decide

/-- finding C07-F5 (legacy): `@time_active(hold_off=5)` on a function with two `@state_trigger` decorators – the second
decorator lives in a second task with its own `last_trig_time`: its occurrence at 2 s runs although the function ran at 1 s
(the new subsystem and the specification suppress it). -/
theorem C07_legacy_cex_hold_off_per_task :
    let cfg : Cfg := ⟨false, true, [], some 5000, true, wNoon⟩
    let o1 : Ev := .occ ⟨1, 1000, wNoon, true, true, .truthy, []⟩
    let o2 : Ev := .occ ⟨2, 2000, wNoon, true, true, .truthy, []⟩
    Legacy.runGroups Flags.current Params.trivial cfg [(0, o1), (1, o2)] (fun _ => GState.init) = [true, true] ∧
    New.run Flags.current Params.trivial cfg [o1, o2] GState.init = [true, false] ∧
    Spec.runs Params.trivial cfg [o1, o2] [] = [true, false] := by
  decide

/-! ## guards never start a run; direct calls -/

/-- **Runs only come from triggers** (legacy, any flag setting): every run belongs to an event that is a direct call or a
trigger whose own condition held; there is one flag per event. -/
theorem C07_guards_never_start_legacy (F : Flags) (P : Params) (cfg : Cfg) (es : List Ev) (g : GState) :
    (Legacy.run F P cfg es g).length = es.length ∧
    ∀ i : Nat, (Legacy.run F P cfg es g)[i]? = some true → ∃ e : Ev, es[i]? = some e ∧ e.triggered = true := by
  rw [Legacy.run_eq]
  exact ⟨runWith_length _ es g, fun i h => runWith_triggered _ (Legacy.step_triggered F P cfg) es g i h⟩

/-- **Runs only come from triggers** (new subsystem, any flag setting) -/
theorem C07_guards_never_start_new (F : Flags) (P : Params) (cfg : Cfg) (es : List Ev) (g : GState) :
    (New.run F P cfg es g).length = es.length ∧
    ∀ i : Nat, (New.run F P cfg es g)[i]? = some true → ∃ e : Ev, es[i]? = some e ∧ e.triggered = true := by
  rw [New.run_eq]
  exact ⟨runWith_length _ es g, fun i h => runWith_triggered _ (New.step_triggered F P cfg) es g i h⟩

/-- **Direct calls bypass the guards** (legacy): a direct call always runs, and removing the direct calls from a
history changes nothing for the trigger occurrences. -/
theorem C07_direct_legacy (F : Flags) (P : Params) (cfg : Cfg) (es : List Ev) (g : GState) :
    (∀ i : Nat, es[i]? = some Ev.direct → (Legacy.run F P cfg es g)[i]? = some true) ∧
    occFlags es (Legacy.run F P cfg es g) = Legacy.run F P cfg (es.filter (fun e => !e.isDirect)) g := by
  rw [Legacy.run_eq, Legacy.run_eq]
  exact ⟨fun i h => runWith_direct _ es g i h, runWith_dropDirect _ es g⟩

/-- **Direct calls bypass the guards** (new subsystem, any flag setting) -/
theorem C07_direct_new (F : Flags) (P : Params) (cfg : Cfg) (es : List Ev) (g : GState) :
    (∀ i : Nat, es[i]? = some Ev.direct → (New.run F P cfg es g)[i]? = some true) ∧
    occFlags es (New.run F P cfg es g) = New.run F P cfg (es.filter (fun e => !e.isDirect)) g := by
  rw [New.run_eq, New.run_eq]
  exact ⟨fun i h => runWith_direct _ es g i h, runWith_dropDirect _ es g⟩

/-! ## a guard decorator used twice -/

/-- **One guard decorator of each kind per function** (legacy; documented: "only a single `@state_active` / `@time_active`
decorator can be used per function"): with two of a kind `trigger_init` refuses the function – no trigger occurrence ever starts
it, direct calls still run; with at most one of each, `runFn` is the guarded trigger loop the other theorems talk about.  (The new
subsystem: `C07_new_repeated_guard_refused`.) -/
theorem C07_legacy_repeated_guard_refused (F : Flags) (P : Params) (cfg : Cfg) (nSA nTA : Nat) (es : List (Nat × Ev)) :
    ((1 < nSA ∨ 1 < nTA) → (Legacy.runFn F P cfg nSA nTA es).length = es.length ∧
        ∀ i : Nat, (Legacy.runFn F P cfg nSA nTA es)[i]? = some true ↔ (es[i]?).map (·.2) = some Ev.direct) ∧
    (nSA ≤ 1 → nTA ≤ 1 → Legacy.runFn F P cfg nSA nTA es = Legacy.runGroups F P cfg es (fun _ => GState.init)) := by
  unfold Legacy.runFn
  refine ⟨fun h => ?_, fun h1 h2 => ?_⟩
  · have hc : (decide (nSA > 1) || decide (nTA > 1)) = true := by
      rcases h with h | h <;> simp [h]
    rw [if_pos hc]
    exact ⟨List.length_map _, refused_flags (·.2) es⟩
  · rw [if_neg (by simp; omega)]

/-- **…and in the new subsystem** (since the fix of C07-F6, `TriggerHandlerDecorator.validate`): with two `@state_active` or two
`@time_active` the function is refused – no occurrence ever starts it, direct calls still run; with at most one of each, `runFn` is
the guarded dispatch the other theorems talk about. -/
theorem C07_new_repeated_guard_refused (F : Flags) (P : Params) (cfg : Cfg) (nSA nTA : Nat) (es : List Ev) :
    ((1 < nSA ∨ 1 < nTA) → (New.runFn false F P cfg nSA nTA es).length = es.length ∧
        ∀ i : Nat, (New.runFn false F P cfg nSA nTA es)[i]? = some true ↔ es[i]? = some Ev.direct) ∧
    (nSA ≤ 1 → nTA ≤ 1 → New.runFn false F P cfg nSA nTA es = New.run F P cfg es GState.init) := by
  unfold New.runFn
  refine ⟨fun h => ?_, fun h1 h2 => ?_⟩
  · have hc : (!false && (decide (nSA > 1) || decide (nTA > 1))) = true := by
      rcases h with h | h <;> simp [h]
    rw [if_pos hc]
    exact ⟨List.length_map _, fun i => (refused_flags id es i).trans (by rw [Option.map_id, id])⟩
  · rw [if_neg (by simp; omega)]

/-- regression for C07-F6 (fixed): before the fix the new subsystem installed both `@state_active` handlers and ran the function
whenever both were truthy; now the function is refused as under the legacy subsystem. -/
theorem C07_new_regress_repeated_guard :
    let cfg : Cfg := ⟨true, false, [], none, true, wNoon⟩
    New.runFn true Flags.current Params.trivial cfg 2 1 [wOcc 1 1000 .truthy, .direct] = [true, true] ∧
    New.runFn false Flags.current Params.trivial cfg 2 1 [wOcc 1 1000 .truthy, .direct] = [false, true] ∧
    Legacy.runFn Flags.current Params.trivial cfg 2 1 [(0, wOcc 1 1000 .truthy), (0, .direct)] = [false, true] := by
  decide

/-! ## non-vacuity of the hypotheses -/

example : Mono [wOcc 1 1000 .truthy, .direct, wOcc 2 6000 .isFalse, wOcc 3 6000 .truthy] none := by
  simp [Mono, wOcc]

example : dayInRange (dayOf wNoon) := by unfold dayInRange; decide

/-- the side condition of `C07_new_partial` is met by a configuration using all three guards and mixed-sign windows (the run
shown is that of the code as it is, `C07_new`) -/
example :
    let cfg : Cfg := ⟨true, true, [wRange 11 0 13 0 false, wRange 9 0 10 0 true], some 10000, true, wNoon⟩
    (cfg.saFirst = true ∨ cfg.stateActive = false ∨ Spec.holdN cfg = 0) ∧
    New.run Flags.current Params.trivial cfg
        [wOcc 1 1000 .truthy, wOcc 2 2000 .truthy, wOcc 3 11000 .isFalse, wOcc 4 12000 .truthy] GState.init
      = [true, false, false, true] := by
  decide

end PsModel.C07
