import PsModel.Lemmas.C03
import PsModel.Lemmas.C03Scope
import PsModel.Lemmas.C03Cells
/-!
# C03 – property theorems (a): argument binding of script functions

`PS.bind` = the index loop / pop / bad_kwargs / TRIGGER_KWARGS logic of `EvalFunc.call`; `Spec.bind` = Python's binding
rules stated per parameter.  The theorems hold for signatures with ANY number of parameters of each kind and calls with
any number of arguments.  Parts (b)–(d) below: static name resolution, the names a body makes local, closure cells.
-/
namespace PsModel.C03

/-- **Binding agrees with Python**, for every configuration of the positional-only flag, provided that
(H1) no *unexpected* keyword is one of the reserved trigger keywords when the function has no `**kwargs`
(the documented intended deviation), and (H2) either the repair is in, or the function has no `**kwargs`, or no keyword is
named like a positional-only parameter (finding C03-F1). -/
theorem C03_bind_partial (cfg : Cfg) (trig : List String) (s : Sig) (args : List Nat) (kw0 : KW)
    (hwf : WF s kw0)
    (htrig : s.kwarg = false → ∀ k ∈ kw0.keys, k ∉ Spec.kwNames s → k ∉ trig)
    (hpo : cfg.posonlyKwToKwargs = true ∨ s.kwarg = false ∨ ∀ k ∈ kw0.keys, k ∉ s.posonly) :
    PS.bind cfg trig s args kw0 = Spec.bind s args kw0 := by
  obtain ⟨hnd, _, _⟩ := hwf
  have hnd' := List.nodup_append.mp hnd
  have hndPA := List.nodup_append.mp (show (s.posonly ++ s.args).Nodup from hnd'.1)
  by_cases hq : PS.sparesPosonlyKw cfg s = true ∨ ∀ p ∈ s.posonly, kw0.has p = false
  · -- the loop is the reference but for the test on the extras, and under H1 the two tests agree
    rw [PS.bind_of_quiet cfg trig s args kw0 hnd hq, Spec.bind]
    cases hkw : s.kwarg with
    | true => rfl
    | false => rw [Spec.extras_all_reserved trig s kw0 (htrig hkw)]; rfl
  · -- a keyword named like a positional-only parameter is matched by the loop: both sides fail
    have hq' := not_or.mp hq
    have hf : PS.sparesPosonlyKw cfg s = false := Bool.not_eq_true _ ▸ hq'.1
    obtain ⟨p, hp, hk⟩ : ∃ p ∈ s.posonly, kw0.has p = true := by
      simpa using hq'.2
    have hkwarg : s.kwarg = false := by
      rcases hpo with h | h | h
      · simpa [PS.sparesPosonlyKw, h] using hf
      · exact h
      · exact absurd hp (h p ((KW.has_iff_mem_keys kw0 p).mp hk))
    have hnotin : p ∉ Spec.kwNames s := fun h =>
      (List.mem_append.mp h).elim (fun ha => hndPA.2.2 p hp p ha rfl)
        (hnd'.2.2 p (List.mem_append_left _ hp) p · rfl)
    rw [PS.bind_eq_none_of_posonly_kw cfg trig s args kw0 hf hndPA.2.1 hp hk,
      Spec.bind_eq_none_of_extra s args kw0 hkwarg hk hnotin]

/-- **Today's code** (the repair is in: `Current.cfg` has the flag on). -/
theorem C03_bind_current (s : Sig) (args : List Nat) (kw0 : KW) (hwf : WF s kw0)
    (htrig : s.kwarg = false → ∀ k ∈ kw0.keys, k ∉ Spec.kwNames s → k ∉ Gen.TRIGGER_KWARGS) :
    PS.bind Current.cfg Gen.TRIGGER_KWARGS s args kw0 = Spec.bind s args kw0 :=
  C03_bind_partial Current.cfg Gen.TRIGGER_KWARGS s args kw0 hwf htrig (Or.inl rfl)

/-- the loop as it was before the `fix:` commit: agreement only when the function has no `**kwargs` or no keyword is named
like a positional-only parameter -/
theorem C03_bind_prefix_partial (s : Sig) (args : List Nat) (kw0 : KW) (hwf : WF s kw0)
    (htrig : s.kwarg = false → ∀ k ∈ kw0.keys, k ∉ Spec.kwNames s → k ∉ Gen.TRIGGER_KWARGS)
    (hpo : s.kwarg = false ∨ ∀ k ∈ kw0.keys, k ∉ s.posonly) :
    PS.bind Cfg.preFix Gen.TRIGGER_KWARGS s args kw0 = Spec.bind s args kw0 :=
  C03_bind_partial Cfg.preFix Gen.TRIGGER_KWARGS s args kw0 hwf htrig (Or.inr hpo)

/-- **Full statement for the repaired loop**: no positional-only hypothesis left. -/
theorem C03_bind_full (trig : List String) (s : Sig) (args : List Nat) (kw0 : KW) (hwf : WF s kw0)
    (htrig : s.kwarg = false → ∀ k ∈ kw0.keys, k ∉ Spec.kwNames s → k ∉ trig) :
    PS.bind { posonlyKwToKwargs := true } trig s args kw0 = Spec.bind s args kw0 :=
  C03_bind_partial _ trig s args kw0 hwf htrig (Or.inl rfl)

/-- witness of (fixed) C03-F1 on the pre-fix loop: `def f(p, /, **kw)` called `f(1, p=2)` -/
theorem C03_regress_posonly_kwargs :
    PS.bind Cfg.preFix Gen.TRIGGER_KWARGS ⟨["p"], [], 0, [], false, true⟩ [1] [("p", 2)]
      ≠ Spec.bind ⟨["p"], [], 0, [], false, true⟩ [1] [("p", 2)] := by decide

/-- the intended deviation: a reserved trigger keyword that no parameter accepts is dropped, nothing else changes -/
theorem C03_trigger_kw_example :
    PS.bind Current.cfg Gen.TRIGGER_KWARGS ⟨[], ["a"], 0, [], false, false⟩ [1] [("trigger_type", 5)]
      = PS.bind Current.cfg Gen.TRIGGER_KWARGS ⟨[], ["a"], 0, [], false, false⟩ [1] [] ∧
    Spec.bind ⟨[], ["a"], 0, [], false, false⟩ [1] [("trigger_type", 5)] = none := by decide

/-- non-vacuity of the hypotheses on a signature with every parameter kind -/
example : WF ⟨["p"], ["a", "b"], 1, [("k", true), ("m", false)], true, true⟩ [("b", 1), ("m", 2), ("zz", 3)] := by
  refine ⟨by decide, by decide, by decide⟩

/-! ## (b) where a name mentioned in a nested function lives (`resolve_nonlocals`) -/

/-- **Name resolution agrees with Python** for a function nested at ANY depth, whatever each enclosing function binds,
declares `global` / `nonlocal` or merely mentions – provided nested `nonlocal` names are handed up and either scoping is
lexical (both repaired by 8c5819e) or no ENCLOSING function declares the name `global` (finding C03-F4 lived exactly
there, see `C03_regress_lexical`). -/
theorem C03_resolve_partial (cfg : ScopeCfg) (s : FnScope) (chain : List FnScope) (x : String)
    (hn : cfg.nonlocalPropagates = true) (h : cfg.lexicalOnly = true ∨ NoGlobalCut chain x) :
    PS.resolve cfg s chain x = Py.resolve s chain x := by
  rw [PS.resolve, Py.resolve]
  cases hg : s.globals.contains x with
  | true => rfl
  | false =>
    cases hl : s.isLocal x with
    | true => rfl
    | false =>
      rw [PS.handsUp_true cfg hn hg hl]
      exact PS.lookup_eq_free cfg hn x chain 1 h

/-- the code today: no side condition is left -/
theorem C03_resolve_current (s : FnScope) (chain : List FnScope) (x : String) :
    PS.resolve Current.scopeCfg s chain x = Py.resolve s chain x :=
  C03_resolve_partial _ s chain x rfl (Or.inl rfl)

/-- the statement of the property for this part, for any code shape with both repairs -/
theorem C03_resolve_full (cfg : ScopeCfg) (hl : cfg.lexicalOnly = true) (hn : cfg.nonlocalPropagates = true)
    (s : FnScope) (chain : List FnScope) (x : String) : PS.resolve cfg s chain x = Py.resolve s chain x :=
  C03_resolve_partial cfg s chain x hn (Or.inl hl)

/-- former finding C03-F4 as a witness: `def f2(x): def f3(): global x; def f4(): return x` – Python reads the global,
the search through further tables walked past f3 and found f2's parameter -/
theorem C03_regress_lexical :
    let f4 : FnScope := ⟨[], [], [], [], ["x"]⟩
    let f3 : FnScope := ⟨[], ["f4"], ["x"], [], ["x", "f4"]⟩
    let f2 : FnScope := ⟨["x"], ["f3"], [], [], ["x", "f3"]⟩
    PS.resolve { Current.scopeCfg with lexicalOnly := false } f4 [f3, f2] "x" = .cell 2 ∧
      Py.resolve f4 [f3, f2] "x" = .global ∧ PS.resolve Current.scopeCfg f4 [f3, f2] "x" = .global := by decide

/-- with lexical scoping the hand-up of `nonlocal` names is necessary: `def a(): x = 1; def b(): def c(): nonlocal x; x = 2` -/
theorem C03_regress_nonlocal_handed_up :
    let c : FnScope := ⟨[], ["x"], [], ["x"], ["x"]⟩
    let b : FnScope := ⟨[], ["c"], [], [], ["c"]⟩
    let a : FnScope := ⟨[], ["x", "b"], [], [], ["x", "b"]⟩
    PS.resolve { Current.scopeCfg with nonlocalPropagates := false } c [b, a] "x" = .global ∧
      Py.resolve c [b, a] "x" = .cell 2 ∧ PS.resolve Current.scopeCfg c [b, a] "x" = .cell 2 := by decide

/-- non-vacuity: a three-deep nest where the name is found two levels out, through a level that does not mention it -/
example :
    let c : FnScope := ⟨[], [], [], [], ["x", "y"]⟩
    let b : FnScope := ⟨[], ["y", "c"], [], [], ["y", "c"]⟩
    let a : FnScope := ⟨[], ["x", "b"], [], [], ["x", "b"]⟩
    PS.resolve Current.scopeCfg c [b, a] "x" = .cell 2 ∧ PS.resolve Current.scopeCfg c [b, a] "y" = .cell 1 ∧
      PS.resolve Current.scopeCfg c [b, a] "zz" = .global := by
  refine ⟨by decide, by decide, by decide⟩

/-! ## (c) which statements make a name local (`get_names_set`, `get_target_names`) -/

mutual
theorem locals_eq (cfg : BindCfg)
    (hall : cfg.annAssignBinds = true ∧ cfg.listTargets = true ∧ cfg.compVarNotLocal = true ∧ cfg.importBinds = true) :
    ∀ s : Stmt, s.Plainish → PS.locals cfg s = Py.locals s
  | .node k ts body, h => by
    unfold Stmt.Plainish at h
    rw [PS.locals, Py.locals, nodeNames_eq cfg hall k ts h.1, localsL_eq cfg hall body h.2]
theorem localsL_eq (cfg : BindCfg)
    (hall : cfg.annAssignBinds = true ∧ cfg.listTargets = true ∧ cfg.compVarNotLocal = true ∧ cfg.importBinds = true) :
    ∀ b : List Stmt, Stmt.PlainishL b → PS.localsL cfg b = Py.localsL b
  | [], _ => by simp [PS.localsL, Py.localsL]
  | s :: rest, h => by
    unfold Stmt.PlainishL at h
    rw [PS.localsL, Py.localsL, locals_eq cfg hall s h.1, localsL_eq cfg hall rest h.2]
end

/-- **The local names of a function body are Python's**, for bodies of any size and nesting and targets of any shape,
once the four repairs are in; outside: `del (a, b)` (a parenthesised del target list). -/
theorem C03_locals_partial (cfg : BindCfg)
    (hall : cfg.annAssignBinds = true ∧ cfg.listTargets = true ∧ cfg.compVarNotLocal = true ∧ cfg.importBinds = true)
    (body : List Stmt) (h : Stmt.PlainishL body) : PS.localsL cfg body = Py.localsL body :=
  localsL_eq cfg hall body h

/-- the code today has the four repairs; the `del (a, b)` restriction stays -/
theorem C03_locals_current (body : List Stmt) (h : Stmt.PlainishL body) :
    PS.localsL Current.bindCfg body = Py.localsL body :=
  localsL_eq _ ⟨rfl, rfl, rfl, rfl⟩ body h

/-- the pre-fix code shapes are kept as witnesses: each repair was necessary -/
theorem C03_regress_annassign :
    PS.localsL { Current.bindCfg with annAssignBinds := false } [.node .ann [.name "v"] []] ≠ Py.localsL [.node .ann [.name "v"] []] := by
  decide
theorem C03_regress_list_target :
    PS.localsL { Current.bindCfg with listTargets := false } [.node .assign [.list [.name "a", .starred (.name "b")]] []]
      ≠ Py.localsL [.node .assign [.list [.name "a", .starred (.name "b")]] []] := by decide
theorem C03_regress_comp_var :
    PS.localsL { Current.bindCfg with compVarNotLocal := false } [.node .compVar [.name "x"] []] ≠ Py.localsL [.node .compVar [.name "x"] []] := by
  decide
theorem C03_regress_import :
    PS.localsL { Current.bindCfg with importBinds := false } [.node .importN [.name "m"] []] ≠ Py.localsL [.node .importN [.name "m"] []] := by
  decide
/-- what is left outside the fragment: `del (a, b)` makes a and b local in Python, `get_names_set` looks at plain names only -/
theorem C03_locals_del_tuple_cex :
    PS.localsL Current.bindCfg [.node .del [.tuple [.name "a", .name "b"]] []] ≠ Py.localsL [.node .del [.tuple [.name "a", .name "b"]] []] := by
  decide

/-- non-vacuity: a body using every binding form of the fragment -/
example : Stmt.PlainishL
    [.node .forT [.tuple [.name "i", .list [.name "j", .starred (.name "k")]]] [.node .aug [.name "t"] [], .node .del [.name "t", .other] []],
     .node .withT [.name "w"] [.node .handler [.name "e"] [.node .ann [.name "v"] []]], .node .defName [.name "g"] [],
     .node .importN [.name "m"] []] := by
  simp only [Stmt.PlainishL, Stmt.Plainish, reduceCtorEq, false_imp_iff, and_true, and_self, forall_const,
    List.forall_mem_cons, List.not_mem_nil, implies_true]

/-! ## (d) the run-time life cycle of closure cells (`Model/C03Cells.lean` vs `Spec/C03Cells.lean`)

Proved here: the static halves of the two interpreters agree for every body (`C03_cells_locals`, `C03_cells_has_closure`);
read, write and unbind of pyscript's table discipline, applied to the table that stands for a Python frame (`absF`), do what
Python's operations do on that frame – for every frame, store, globals and every name the function mentions
(`C03_cells_read`, `_write`, `_unbind`; `del`, the comprehension, closure creation and call entry are not proved in
general); the deviations are witnesses.  The lifting of these one-step simulations to whole program runs (induction over
the evaluator) is NOT proved: whole runs are tied by correspondence only. -/
namespace Cells

/-- `local_names` is Python's set of names bound in the body, for every body -/
theorem C03_cells_locals (fd : FnDef) : PS.localNames fd = Py.bound fd := localNames_eq fd

/-- `check_for_closure` finds a nested def exactly when there is one (which decides whether locals live in cells) -/
theorem C03_cells_has_closure (ss : List Stmt) : PS.hasInnerL ss = Py.hasDefL ss := hasInnerL_eq ss

/-- `ast_name` on the table = Python's read of the frame, for every mentioned name -/
theorem C03_cells_read (f : Py.Frame) (g : Glob) (s : Store) (x : String) (hx : x ∈ PS.names f.fd) :
    PS.read (absF f) g s x = Py.read f g s x := by
  rw [PS.read, Py.read, show (absF f).globalNames = f.fd.globals from rfl,
    show (absF f).localNames = PS.localNames f.fd from rfl, localNames_eq]
  cases hg : f.fd.globals.contains x with
  | true => rfl
  | false =>
    rw [absF_tab f hx hg]
    rcases he : f.env x with _ | ⟨a, y⟩
    · rw [view_fast he]
      cases f.fast x with
      | some v => rfl
      | none =>
        simp only [Bool.false_eq_true, if_false, Option.map_none]
        cases g x <;> cases (Py.bound f.fd).contains x <;> rfl
    · rw [view_cell he]; rfl

/-- `recurse_assign` on the table = Python's assignment: same globals and store, and the new table stands for the new frame -/
theorem C03_cells_write (f : Py.Frame) (g : Glob) (s : Store) (x : String) (v : Val) (hx : x ∈ PS.names f.fd) :
    PS.write (absF f) g s x v = (absF (Py.write f g s x v).1, (Py.write f g s x v).2) := by
  rw [PS.write, Py.write, show (absF f).globalNames = f.fd.globals from rfl]
  cases hg : f.fd.globals.contains x with
  | true => rfl
  | false =>
    rw [absF_tab f hx hg]
    rcases he : f.env x with _ | ⟨a, y⟩
    · rw [view_fast he]
      simp only [Bool.false_eq_true, if_false]
      rw [absF_setFast f (some v) hx hg he]
      cases f.fast x <;> rfl
    · rw [view_cell he]; rfl

/-- the end of an `except … as x` clause -/
theorem C03_cells_unbind (f : Py.Frame) (g : Glob) (s : Store) (x : String) (hx : x ∈ PS.names f.fd) :
    PS.unbind (absF f) g s x = (absF (Py.unbind f g s x).1, (Py.unbind f g s x).2) := by
  rw [PS.unbind, Py.unbind, show (absF f).globalNames = f.fd.globals from rfl]
  cases hg : f.fd.globals.contains x with
  | true => rfl
  | false =>
    rw [absF_tab f hx hg]
    rcases he : f.env x with _ | ⟨a, y⟩
    · rw [view_fast he]
      simp only [Bool.false_eq_true, if_false]
      rw [absF_setFast f none hx hg he]
      cases f.fast x <;> rfl
    · rw [view_cell he]; rfl

/-- finding C03-F12 at the level of the operation: `del` of a declared-global name that does not exist -/
theorem C03_cells_del_global_cex :
    let f : Py.Frame := ⟨⟨"f", [], [.declG "x", .del "x"]⟩, fun _ => none, fun _ => none⟩
    (PS.del Current.cellCfg (absF f) (fun _ => none) (fun _ _ => none) "x").toOption.isSome = true ∧
    (Py.del f (fun _ => none) (fun _ _ => none) "x").toOption.isSome = false ∧
    (PS.del Cfg.repaired (absF f) (fun _ => none) (fun _ _ => none) "x").toOption.isSome = false := by
  refine ⟨by decide, by decide, by decide⟩

/-- finding C03-F17 at the level of the operation: inner function, free variable `x` (a shared cell that is unbound),
module global `x = 5`: the iterable of `[x for x in (x,)]` reads the global; Python raises NameError; with the iterable
evaluated first (`compIterFirst`) the table discipline raises too -/
theorem C03_cells_comp_iter_cex :
    let f : Py.Frame := ⟨⟨"inner", [], [.ret (.comp "x" [.var "x"] (.var "x"))]⟩, fun y => if y = "x" then some (0, "x") else none, fun _ => none⟩
    let g : Glob := fun y => if y = "x" then some (.int 5) else none
    (PS.comp Current.cellCfg (absF f) g (fun _ _ => none) "x" [.var "x"] (.var "x")).2.2.toOption = some [.int 5] ∧
    (Py.comp f g (fun _ _ => none) "x" [.var "x"] (.var "x")).2.2.toOption = none ∧
    (PS.comp Cfg.repaired (absF f) g (fun _ _ => none) "x" [.var "x"] (.var "x")).2.2.toOption = none := by
  refine ⟨by decide, by decide, by decide⟩

/-- finding C03-F13 at the level of the operation: the loop variable of a comprehension is a declared global: the loop
values are written through to the module global; Python (and the repaired shape) leave it alone -/
theorem C03_cells_comp_global_cex :
    let f : Py.Frame := ⟨⟨"f", [], [.declG "x", .expr (.comp "x" [.lit 5, .lit 6] (.var "x"))]⟩, fun _ => none, fun _ => none⟩
    let g : Glob := fun y => if y = "x" then some (.int 1) else none
    (PS.comp Current.cellCfg (absF f) g (fun _ _ => none) "x" [.lit 5, .lit 6] (.var "x")).2.1 "x" = some (.int 6) ∧
    (Py.comp f g (fun _ _ => none) "x" [.lit 5, .lit 6] (.var "x")).2.1 "x" = some (.int 1) ∧
    (PS.comp Cfg.repaired (absF f) g (fun _ _ => none) "x" [.lit 5, .lit 6] (.var "x")).2.1 "x" = some (.int 1) ∧
    (PS.comp Current.cellCfg (absF f) g (fun _ _ => none) "x" [.lit 5, .lit 6] (.var "x")).2.2.toOption = some [.int 5, .int 6] := by
  refine ⟨by decide, by decide, by decide, by decide⟩

end Cells

end PsModel.C03
