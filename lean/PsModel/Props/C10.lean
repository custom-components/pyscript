import PsModel.Lemmas.C10Plan
import PsModel.Lemmas.C10Load
/-!
# C10 – property theorems (reload loads exactly what the files and configuration dictate)

Only property statements live here; helper lemmas are in `Lemmas/C10*.lean`.
`loadRows` is the `load_paths` table extracted from the working tree (`Gen/LoadPaths.lean`).
-/
namespace PsModel.C10
open PsModel.C10.Spec

/-- **'#' never loads.**  Whatever the table, configuration and directory listing: no file with a component that
starts with `#` gets a context, and every registered entry carries the path, source and modification time of a listed
file. -/
theorem C10_hash_never (rows : List Row) (apps : AppsCfg) (files : List File) (e : Entry)
    (h : e ∈ globRead rows apps files) : isCommented e.path = false ∧ ∃ f ∈ files, f.path = e.path ∧ f.src = e.src ∧ f.mtime = e.mtime := by
  obtain ⟨r, _, f, hf, _, hc, c, _, rfl⟩ := globRead_from rows apps files h
  exact ⟨hc, f, hf, rfl, rfl, rfl⟩

/-- **Documented names.**  With today's `load_paths`, every registered file has exactly the documented context name
(`x.py ↦ file.x`; otherwise the path with `/` ↦ `.` and a trailing `/__init__` dropped). -/
theorem C10_names_doc (apps : AppsCfg) (files : List File) (e : Entry)
    (h : e ∈ globRead loadRows apps files) : e.name = docName e.path := by
  obtain ⟨r, hr, f, _, hm, _, c, _, rfl⟩ := globRead_from loadRows apps files h
  exact ctxName_doc (loadRows_shape r hr).1 hm

/-- **One context per name**: the table of registered files never holds two entries with the same context name
(`glob_read_files` skips a file whose name is taken; with today's row order that is package form before module form
for apps and modules). -/
theorem C10_names_unique (rows : List Row) (apps : AppsCfg) (files : List File) :
    ((globRead rows apps files).map (·.name)).Nodup := globRead_nodup rows apps files

/-- **Only documented files are auto-loaded**: top-level files, files below `scripts`, and `apps/<a>.py` /
`apps/<a>/__init__.py` of *configured* apps (an empty yaml entry, value `none`, counts as configured) – and an
auto-loaded app carries exactly its configuration value.  Not claimed for the path `apps/__init__.py` (`hedge`), which the
`apps/*.py` row reads as the package form of an app named `apps`. -/
theorem C10_autoload_sound (apps : AppsCfg) (files : List File) (e : Entry)
    (h : e ∈ globRead loadRows apps files) (ha : e.autoload = true) (hedge : e.path ≠ ["apps", "__init__"]) :
    isAutoPath apps e.path = true ∧
      (isUnder "apps" e.name = true → apps.lookup (e.name.getD 1 "") = some e.appCfg) := by
  obtain ⟨r, hr, f, _, hm, _, c, hcfg, rfl⟩ := globRead_from loadRows apps files h
  exact autoload_sound (loadRows_auto hr ha) hm hcfg hedge

/-- **Every visible file is registered under its documented name** (possibly by a file of the same name that
takes precedence). -/
theorem C10_names_complete (apps : AppsCfg) (files : List File) (f : File) (hf : f ∈ files)
    (hv : isVisible apps f.path = true) :
    ∃ e ∈ globRead loadRows apps files, e.name = docName f.path := by
  obtain ⟨hc, r, hr, hm, hgate⟩ := visible_row hv
  rw [← ctxName_doc (loadRows_shape r hr).1 hm]
  exact hasName_iff.mp (globRead_complete loadRows apps files hr hf hm hc hgate)

/-- **`import_recurse` = transitive closure.**  On an acyclic import graph the recursive walk with its `visited`
set and memo table returns exactly the contexts reachable through imports – for every depth budget above the rank
of the start node (so the walk terminates and the answer does not depend on the budget), and starting from any
memo table left behind by earlier root calls (`MemoInv`). -/
theorem C10_closure (loaded : List Ctx) (rank : Name → Nat) (hacyc : Acyclic loaded rank) (fuel : Nat) (n : Name)
    (hfuel : rank n < fuel) (tbl : Tbl) (hinv : MemoInv loaded [] { visited := [], tbl := tbl }) :
    (∀ x, x ∈ (importRecurse loaded fuel n { visited := [], tbl := tbl }).1 ↔ Reach loaded n x) ∧
      MemoInv loaded [] { visited := [], tbl := (importRecurse loaded fuel n { visited := [], tbl := tbl }).2.tbl } := by
  have h := importRecurse_root hacyc hfuel hinv
  exact ⟨h.1, h.2.1⟩

/-- the empty memo table is a valid starting point (non-vacuity of `C10_closure`) -/
theorem C10_closure_start (loaded : List Ctx) : MemoInv loaded [] { visited := [], tbl := [] } :=
  ⟨fun _ h => absurd h Bool.false_ne_true, List.forall_mem_nil _⟩

/-- **Untouched stays untouched (soundness).**  Every loaded context a default reload deletes is one the documented
rule `Spec.Disc` discards: its file / mtime / app configuration changed or vanished, it belongs to an app or module
package that contains a change, or it imports – directly or transitively – a changed module.  Holds for every set of
loaded contexts with an acyclic import graph and every file table with distinct names and no auto-loaded module
(`C10_plan_hyps`). -/
theorem C10_plan_sound (loaded : List Ctx) (ents : List Entry) (rank : Name → Nat) (hacyc : Acyclic loaded rank)
    (fuel : Nat) (hfuel : ∀ c ∈ loaded, rank c.name < fuel) (hnd : NamesNodup ents) (hmod : ModsNotAuto ents)
    (pl : Plan) (hpl : plan fuel loaded ents .default = some pl) (c : Ctx) (hc : c ∈ loaded)
    (hdel : c.name ∈ pl.del) : Disc loaded ents c.name := by
  rw [plan_default hpl] at hdel
  exact defaultPlan_sound hacyc hfuel hnd hmod hdel ⟨c, hc, rfl⟩

/-- the two table-side hypotheses hold for what `glob_read_files` produces from today's `load_paths` -/
theorem C10_plan_hyps (apps : AppsCfg) (files : List File) :
    NamesNodup (globRead loadRows apps files) ∧ ModsNotAuto (globRead loadRows apps files) :=
  ⟨globRead_nodup _ _ _, globRead_modules_not_auto _ _⟩

/-- **Everything that must go, goes (completeness) – partial.**  FULL statement: `Disc loaded ents n → n ∈ pl.del`.
It holds on the fragment `CompleteHyps`: no loaded app/module member has lost its file, importers of a module
package reach what its members import, and imports stay inside the importer's package or lead to modules.  The
first two conditions are violated by the code today (`…_cex_deleted_module`, `…_cex_widened_package`). -/
theorem C10_plan_complete_partial (loaded : List Ctx) (ents : List Entry) (rank : Name → Nat)
    (hacyc : Acyclic loaded rank) (fuel : Nat) (hfuel : ∀ c ∈ loaded, rank c.name < fuel) (hnd : NamesNodup ents)
    (hmod : ModsNotAuto ents) (hln : (loaded.map (·.name)).Nodup) (H : CompleteHyps loaded ents)
    (pl : Plan) (hpl : plan fuel loaded ents .default = some pl) (n : Name) (hdisc : Disc loaded ents n) :
    n ∈ pl.del := by
  rw [plan_default hpl]
  exact defaultPlan_complete hacyc hfuel hnd hmod hln H hdisc

/-! witnesses (replayed on the real code by `harness/run_C10.py`, families `fixed`) -/

def mkCtx (name : Name) (path : Path) (src : Nat) (imports : List Name) (isModule : Bool) (oid : Nat) : Ctx :=
  { name := name, path := path, relImport := none, src := src, mtime := 1, appCfg := none, imports := imports,
    isModule := isModule, oid := oid }

def mkEnt (name : Name) (path : Path) (src : Nat) (autoload : Bool) : Entry :=
  { name := name, path := path, relImport := none, fq := path, appCfg := none, src := src, mtime := 1,
    autoload := autoload, force := false }

/-- F1: `a.py` imports `modules/m.py`; `m.py` is deleted -/
def cexF1Loaded : List Ctx :=
  [mkCtx ["file", "a"] ["a"] 1 [["modules", "m"]] false 0, mkCtx ["modules", "m"] ["modules", "m"] 2 [] true 1]
def cexF1Ents : List Entry := [mkEnt ["file", "a"] ["a"] 1 true]

/-- **Counterexample to completeness (finding C10-F1)**: the importer of a deleted module must be discarded
(`Disc`), but the plan deletes only the module. -/
theorem C10_plan_complete_cex_deleted_module :
    Disc cexF1Loaded cexF1Ents ["file", "a"] ∧
      (plan 4 cexF1Loaded cexF1Ents .default).map (·.del) = some [["modules", "m"]] := by
  constructor
  · exact .importer (c := mkCtx ["file", "a"] ["a"] 1 [["modules", "m"]] false 0) (i := ["modules", "m"])
      (d := ["modules", "m"]) (by simp [cexF1Loaded]) (by simp [mkCtx]) rfl
      (.changed (c := mkCtx ["modules", "m"] ["modules", "m"] 2 [] true 1) (by simp [cexF1Loaded]) (.inl (by decide)))
  · decide

/-- F2: `b.py` imports package `q`, `c.py` imports `q.sub`, `q/sub.py` imports `m`; `m.py` changes -/
def cexF2Loaded : List Ctx :=
  [mkCtx ["file", "b"] ["b"] 1 [["modules", "q"]] false 0,
   mkCtx ["file", "c"] ["c"] 2 [["modules", "q", "sub"]] false 1,
   mkCtx ["modules", "m"] ["modules", "m"] 5 [] true 2,
   mkCtx ["modules", "q"] ["modules", "q", "__init__"] 3 [] true 3,
   mkCtx ["modules", "q", "sub"] ["modules", "q", "sub"] 4 [["modules", "m"]] true 4]
def cexF2Ents : List Entry :=
  [mkEnt ["file", "b"] ["b"] 1 true, mkEnt ["file", "c"] ["c"] 2 true,
   mkEnt ["modules", "q"] ["modules", "q", "__init__"] 3 false, mkEnt ["modules", "m"] ["modules", "m"] 6 false,
   mkEnt ["modules", "q", "sub"] ["modules", "q", "sub"] 4 false]

/-- **Counterexample to completeness (finding C10-F2)**: `modules.q` is discarded (sibling of `modules.q.sub`, which
imports the changed `modules.m`), `file.b` imports `modules.q` and must go too – the plan keeps it. -/
theorem C10_plan_complete_cex_widened_package :
    Disc cexF2Loaded cexF2Ents ["file", "b"] ∧
      ((plan 7 cexF2Loaded cexF2Ents .default).map (fun p => (p.del.contains ["modules", "q"], p.del.contains ["file", "b"])))
        = some (true, false) := by
  constructor
  · have hm : Disc cexF2Loaded cexF2Ents ["modules", "m"] :=
      .changed (c := mkCtx ["modules", "m"] ["modules", "m"] 5 [] true 2) (by simp [cexF2Loaded])
        (.inr ⟨mkEnt ["modules", "m"] ["modules", "m"] 6 false, by decide, by decide⟩)
    have hs : Disc cexF2Loaded cexF2Ents ["modules", "q", "sub"] :=
      .importer (c := mkCtx ["modules", "q", "sub"] ["modules", "q", "sub"] 4 [["modules", "m"]] true 4)
        (i := ["modules", "m"]) (d := ["modules", "m"]) (by simp [cexF2Loaded]) (by simp [mkCtx]) rfl hm
    have hq : Disc cexF2Loaded cexF2Ents ["modules", "q"] :=
      .sibling (c := mkCtx ["modules", "q"] ["modules", "q", "__init__"] 3 [] true 3) (d := ["modules", "q", "sub"])
        (by simp [cexF2Loaded]) (by decide) rfl hs
    exact .importer (c := mkCtx ["file", "b"] ["b"] 1 [["modules", "q"]] false 0) (i := ["modules", "q"])
      (d := ["modules", "q"]) (by simp [cexF2Loaded]) (by simp [mkCtx]) rfl hq
  · decide

/-- non-vacuity of `CompleteHyps`: a script importing a single-file module that changed -/
example : CompleteHyps [mkCtx ["file", "a"] ["a"] 1 [["modules", "m"]] false 0, mkCtx ["modules", "m"] ["modules", "m"] 2 [] true 1]
    [mkEnt ["file", "a"] ["a"] 1 true, mkEnt ["modules", "m"] ["modules", "m"] 3 false] := by
  refine ⟨by decide, ?_, by decide⟩
  intro c hc i hi _ d hd hr m hm
  simp only [List.mem_cons, List.mem_nil_iff, or_false] at hc hd
  rcases hc with rfl | rfl
  · simp only [mkCtx, List.mem_singleton] at hi
    subst hi
    rcases hd with rfl | rfl
    · simp [mkCtx, root2] at hr
    · exact .step (c := mkCtx ["file", "a"] ["a"] 1 [["modules", "m"]] false 0) (by decide) (by simp [mkCtx]) hm
  · simp [mkCtx] at hi

/-- **Counterexample (finding C10-F6): an app with an EMPTY yaml entry cannot be switched off.**  `apps/x/__init__.py` was
loaded while `x:` was configured with an empty entry (configuration value `none`).  After the entry is removed
`glob_read_files` still registers the file – through the unguarded `apps/*/**/*.py` row, not auto-loaded, configuration
`none` (the entry `mkEnt …` below; that this is what the real `glob_read_files` yields is replayed by the harness, fixed
family) – so the loaded context does not differ from the table and the plan deletes nothing, although the app is no longer
configured (`isAutoPath` is false, the docs promise that removing the configuration disables the app).  With a
non-empty value (`some 0`) the same removal does delete the context. -/
theorem C10_unconfigured_empty_entry_cex :
    isAutoPath [] ["apps", "x", "__init__"] = false ∧
    (plan 3 [{ mkCtx ["apps", "x"] ["apps", "x", "__init__"] 1 [] false 0 with appCfg := none }]
        [mkEnt ["apps", "x"] ["apps", "x", "__init__"] 1 false] .default).map (·.del) = some [] ∧
    (plan 3 [{ mkCtx ["apps", "x"] ["apps", "x", "__init__"] 1 [] false 0 with appCfg := some 0 }]
        [mkEnt ["apps", "x"] ["apps", "x", "__init__"] 1 false] .default).map (fun p => p.del.contains ["apps", "x"])
        = some true := by
  decide

/-- **The spec column printed by the driver is the spec.**  `Spec.discardedList` (what `verifdrv` prints as `disc=`
and the harness compares with its own oracle) contains only contexts that `Spec.Disc` discards, and – once the
iteration is stable, which the driver checks – all of them. -/
theorem C10_spec_column (loaded : List Ctx) (ents : List Entry) :
    (∀ n ∈ discardedList loaded ents, Disc loaded ents n) ∧
      (stable loaded ents (discardedList loaded ents) = true → ∀ n, Disc loaded ents n → n ∈ discardedList loaded ents) :=
  ⟨iter_invariant (P := fun D => ∀ n ∈ D, Disc loaded ents n) (fun _ => discStep_sound) _ _ (List.forall_mem_nil _),
    fun hst _ h => disc_in_stable hst h⟩

/-- **What survives a default reload runs the current file.**  A loaded context that the plan does not delete has an
entry in the current file table with exactly the source, modification time and app configuration it was loaded with. -/
theorem C10_result_kept_current (loaded : List Ctx) (ents : List Entry) (rank : Name → Nat) (hacyc : Acyclic loaded rank)
    (fuel : Nat) (hfuel : ∀ c ∈ loaded, rank c.name < fuel) (hnd : NamesNodup ents)
    (hln : (loaded.map (·.name)).Nodup) (pl : Plan) (hpl : plan fuel loaded ents .default = some pl)
    (c : Ctx) (hc : c ∈ loaded) (hkeep : c.name ∉ pl.del) :
    ∃ e, findEntry ents c.name = some e ∧ c.src = e.src ∧ c.mtime = e.mtime ∧ c.appCfg = e.appCfg := by
  rw [plan_default hpl] at hkeep
  have h1 : c.name ∉ (p1Default loaded ents).del := fun h =>
    hkeep ((plan_del_iff hacyc hfuel _ (hnd.congr (p1_names loaded ents)) _).mpr (.inl h))
  obtain ⟨e, he, hen⟩ := hasName_iff.mp (Bool.of_not_eq_false fun hh => h1 (mem_p1_del.mpr (.inl ⟨c, hc, hh, rfl⟩)))
  have hfe : findEntry ents c.name = some e := hen ▸ findEntry_of_nodup hnd he
  have hnc : isChanged loaded e = false := Bool.of_not_eq_true fun hh => h1 (mem_p1_del.mpr (.inr ⟨e, he, hh, hen⟩))
  have hfc := findCtx_of_nodup hln hc
  unfold isChanged at hnc
  rw [hen, hfc] at hnc
  simp only [differs, Bool.or_eq_false_iff, bne_eq_false_iff_eq] at hnc
  exact ⟨e, hfe, hnc.1.1.symm, hnc.2.symm, hnc.1.2.symm⟩

/-- **`reload('*')`** deletes every loaded context and raises every flag outside packages (inside a package the
root file is the one that is loaded again). -/
theorem C10_only_all (loaded : List Ctx) (ents : List Entry) (rank : Name → Nat) (hacyc : Acyclic loaded rank)
    (fuel : Nat) (hfuel : ∀ c ∈ loaded, rank c.name < fuel) (hnd : NamesNodup ents)
    (pl : Plan) (hpl : plan fuel loaded ents .all = some pl) :
    (∀ c ∈ loaded, c.name ∈ pl.del) ∧
      (∀ e ∈ ents, ∃ e' ∈ pl.ents, e'.name = e.name ∧
        (inPkg e.name = false → e'.force = true) ∧ (inPkg e.name = true → e'.force = isRootFile (root2 e.name) e)) := by
  obtain rfl : phase3 (phase2 loaded fuel { del := loaded.map (·.name), ents := ents.map (fun e => e.setF true) }) = pl :=
    Option.some.inj hpl
  have hnd1 : NamesNodup ({ del := loaded.map (·.name), ents := ents.map (fun e => e.setF true) } : Plan).ents :=
    hnd.congr (map_name_map (f := fun e => e.setF true) (fun _ => rfl) ents)
  constructor
  · intro c hc
    exact (plan_del_iff hacyc hfuel _ hnd1 _).mpr (.inl (List.mem_map_of_mem (f := (·.name)) hc))
  · intro e he
    obtain ⟨e', he', hn, hf⟩ := forced_after hacyc hfuel _ hnd1 (List.mem_map_of_mem (f := fun e => e.setF true) he) rfl
    refine ⟨e', he', hn, fun h => ?_, fun h => ?_⟩
    · rw [hf, setF_name, h]; rfl
    · rw [hf, setF_name, h]; rfl

/-- **`reload(name)`: other changes are ignored.**  Besides `name` itself the plan deletes only what the
documentation allows (`Spec.DiscOnly`): the other files of `name`'s app or module, the contexts that – directly or
transitively – import the module `name` belongs to, and the packages of those importers.  The hypothesis `Unforced ents`
holds for every table `glob_read_files` produces (`globRead_unforced`). -/
theorem C10_only_ctx (loaded : List Ctx) (ents : List Entry) (rank : Name → Nat) (hacyc : Acyclic loaded rank)
    (fuel : Nat) (hfuel : ∀ c ∈ loaded, rank c.name < fuel) (hnd : NamesNodup ents) (hff : Unforced ents)
    (n : Name) (pl : Plan) (hpl : plan fuel loaded ents (.ctx n) = some pl) (m : Name) (hm : m ∈ pl.del) :
    m = n ∨ DiscOnly loaded n m := by
  unfold plan phase1 at hpl
  by_cases hunk : (!(loaded.any (fun c => c.name == n)) && !hasName ents n) = true
  · simp [hunk] at hpl
  simp only [hunk, Bool.false_eq_true, if_false] at hpl
  by_cases hin : hasName ents n = true
  · -- `n` is a file: its entry is forced
    simp only [hin, Bool.not_true, Bool.false_eq_true, if_false, Option.map_some, Option.some.injEq] at hpl
    subst hpl
    refine plan_single hacyc hfuel (hnd.congr (map_name_setForce ..)) (List.forall_mem_nil _) ?_
      (fun _ _ => List.not_mem_nil) hm
    intro e1 he1 hf1
    obtain ⟨e, he, rfl⟩ := mem_setForce.mp he1
    rw [upd_force] at hf1
    by_cases hen : (e.name == n) = true
    · rw [upd_name]; exact eq_of_beq hen
    · rw [if_neg hen, hff e he] at hf1; cases hf1
  · -- `n` is only a loaded context: it is deleted
    simp only [hin, Bool.not_false, if_true, Option.map_some, Option.some.injEq] at hpl
    subst hpl
    refine plan_single hacyc hfuel hnd (fun _ hx => List.mem_singleton.mp hx) ?_ ?_ hm
    · intro e1 he1 hf1; rw [hff e1 he1] at hf1; cases hf1
    · intro e1 he1 hd
      exact hin (hasName_iff.mpr ⟨e1, he1, List.mem_singleton.mp hd⟩)

/-- `reload(name)` of a name that is neither loaded nor a file does nothing -/
theorem C10_only_unknown (fuel : Nat) (loaded : List Ctx) (ents : List Entry) (n : Name)
    (h1 : ∀ c ∈ loaded, c.name ≠ n) (h2 : ∀ e ∈ ents, e.name ≠ n) : plan fuel loaded ents (.ctx n) = none := by
  rw [plan, phase1, List.any_eq_false.mpr fun c hc h => h1 c hc (eq_of_beq h), hasName_false_iff.mpr h2]
  rfl

/-- **Result of one reload.**  Let `pl` be the plan.  Then the reload only *appends* load events `evs`, and
* a context that is neither in `pl.del` nor (re)executed is *the same object* afterwards (all fields, identity `oid`);
* nothing else appears: every context afterwards is such a survivor or was executed in this reload;
* every forced auto-load entry is executed with the source the file table holds for it now. -/
theorem C10_result (fuelR fuelL : Nat) (rows : List Row) (apps : AppsCfg) (disk : List File) (prog : Nat → List Imp)
    (only : Only) (st : St) (pl : Plan)
    (hpl : plan fuelR (sortCtxs (st.ctxs.filter (fun c => isScriptCtx c.name))) (globRead rows apps disk) only = some pl) :
    ∃ evs : List (Name × Nat),
      (reload fuelR (fuelL + 1) rows apps disk prog only st).events = st.events ++ evs ∧
      (∀ c ∈ st.ctxs, c.name ∉ pl.del → c.name ∉ evs.map (·.1) →
        c ∈ (reload fuelR (fuelL + 1) rows apps disk prog only st).ctxs) ∧
      (∀ c ∈ (reload fuelR (fuelL + 1) rows apps disk prog only st).ctxs,
        (c ∈ st.ctxs ∧ c.name ∉ pl.del) ∨ c.name ∈ evs.map (·.1)) ∧
      (∀ e ∈ pl.ents, e.autoload = true → e.force = true → (e.name, e.src) ∈ evs) := by
  unfold reload
  rw [hpl]
  simp only [applyPlan]
  obtain ⟨evs, ht, hall⟩ := loadAll_spec disk prog fuelL
    ((sortEntries pl.ents).filter (fun e => e.autoload && e.force)) (deleteCtxs st pl.del)
  refine ⟨evs, ht.events, fun c hc hnd hne => ht.keep c (mem_deleteCtxs.mpr ⟨hc, hnd⟩) hne,
    fun c hc => (ht.new c hc).imp mem_deleteCtxs.mp id, fun e he ha hf => hall e ?_⟩
  rw [List.mem_filter, sortEntries, List.mem_mergeSort, ha, hf]
  exact ⟨he, rfl⟩

/-- **`module_import` names a module like `glob_read_files` does** (today's code = /repo with the `fix:` patches
C11-F1 / C11-F4, flags `relFromPackageNow`, `submodKnowsDirNow`).  Every candidate context name equals the documented
name of the candidate file: for absolute imports, for relative imports from a package `__init__` (context named after
its `rel_import_path`) AND – since the repair – for relative imports executed by a plain member of the package (context
`pkg.s`, `rel_import_path` = the package directory): the sibling-relative exception of the pre-fix code
(`C10_regress_import_name_prefix`, finding C10-F4) is gone. -/
theorem C10_import_name (self : Name) (rel : Option Path) (i : Imp) (hmod : i.mod ≠ [])
    (hinit : i.mod.getLast? ≠ some "__init__")
    (hok : i.level = 0 ∨ ∃ r, rel = some r ∧ modParts r ≠ [] ∧
      (self = modParts r ∨ (self ≠ modParts r ∧ self.dropLast = modParts r)))
    (cands : List Cand) (hc : candidates self rel i = some cands) :
    ∀ c ∈ cands, c.name = docName c.file := by
  -- the two forms of a candidate file below a non-empty directory `q` have the documented name `q ++ i.mod`
  have good : ∀ q : Path, q ≠ [] → docName (q ++ i.mod ++ ["__init__"]) = q ++ i.mod ∧ docName (q ++ i.mod) = q ++ i.mod := by
    intro q hq
    refine ⟨docName_init _ (by simp [hmod]), docName_plain _ ?_ ?_⟩
    · have := List.length_pos_iff.mpr hq
      have := List.length_pos_iff.mpr hmod
      rw [List.length_append]; omega
    · rw [List.getLast?_append]
      cases h : i.mod.getLast? with
      | none => exact absurd (List.getLast?_eq_none_iff.mp h) hmod
      | some x => rw [h] at hinit; simpa using hinit
  intro c hcm
  unfold candidates at hc
  by_cases hl : 0 < i.level
  · rcases hok with h0 | ⟨r, rfl, hne, hself⟩
    · omega
    rw [candidatesCfg_rel hl, Option.bind_some] at hc
    have hstart : (if (relFromPackageNow && !(self == modParts r)) = true then self.dropLast else self) = modParts r := by
      rcases hself with rfl | ⟨h1, h2⟩
      · simp
      · simp [relFromPackageNow, h1, h2]
    rw [hstart] at hc
    obtain ⟨⟨p, n⟩, hcl, rfl⟩ := Option.map_eq_some_iff.mp hc
    obtain ⟨rfl, hp2⟩ := climb_same _ _ _ _ hcl
    have hpne : p ≠ [] := hp2 hne
    rcases List.mem_cons.mp hcm with rfl | hcm
    · exact (good p hpne).1.symm
    · rw [List.mem_singleton.mp hcm]; exact (good p hpne).2.symm
  · obtain ⟨pre, _, hn, hf | hf⟩ := candidatesCfg_abs_mem hl hc hcm
    · rw [hn, hf]; exact (good [pre] (by simp)).1.symm
    · rw [hn, hf]; exact (good [pre] (by simp)).2.symm

/-- **Regression witness (finding C10-F4, fixed by C11-F1).**  `from . import t` executed by `modules/p/s.py` (context
`modules.p.s`, loaded by the package with `rel_import_path = "modules/p"`) looks for `modules/p/t.py`: the PRE-FIX code
called the context `modules.p.s.t` (not the documented name – the next reload unloaded it as 'not present in current
files'); today's code calls it `modules.p.t`. -/
theorem C10_regress_import_name_prefix :
    (∃ c ∈ (candidatesCfg false false ["modules", "p", "s"] (some ["modules", "p"]) ⟨1, ["t"]⟩).getD [],
      c.file = ["modules", "p", "t"] ∧ c.name = ["modules", "p", "s", "t"] ∧ c.name ≠ docName c.file) ∧
    (∀ c ∈ (candidates ["modules", "p", "s"] (some ["modules", "p"]) ⟨1, ["t"]⟩).getD [], c.name = ["modules", "p", "t"]) :=
  ⟨⟨⟨["modules", "p", "s", "t"], ["modules", "p", "t"], some ["modules", "p"]⟩, by decide, rfl, rfl, by decide⟩, by decide⟩

/-- **Regression witness (C11-F4).**  `import p.s` from a script: the PRE-FIX code created the context of
`modules/p/s.py` without `rel_import_path` (so `from . import t` inside it raised ImportError); today it gets the
package directory `modules/p`. -/
theorem C10_regress_submodule_rel_path :
    ((candidatesCfg false false ["file", "a"] none ⟨0, ["p", "s"]⟩).getD []).map (·.relImport) =
        [some ["modules", "p", "s"], none] ∧
    ((candidates ["file", "a"] none ⟨0, ["p", "s"]⟩).getD []).map (·.relImport) =
        [some ["modules", "p", "s"], some ["modules", "p"]] := by
  decide

/-- non-vacuity of `C10_import_name` (sibling-relative case) -/
example : ∃ cands, candidates ["modules", "p", "s"] (some ["modules", "p"]) ⟨1, ["t"]⟩ = some cands ∧ cands ≠ [] :=
  ⟨_, rfl, by decide⟩

/-- **Counterexample (finding C10-F3)**: with two modules importing each other the load of the importing script
fails for *every* recursion budget – a context is registered only after its script has finished, so each import of
the other module starts it again. -/
theorem C10_cyclic_cex (fuel : Nat) :
    (loadCtx cexF3Disk cexF3Prog fuel { ctxs := [], events := [] } cexF3A).1 = false := by
  have key : ∀ fuel st, NoMN st →
      (loadCtx cexF3Disk cexF3Prog fuel st cexF3M).1 = false ∧ (loadCtx cexF3Disk cexF3Prog fuel st cexF3N).1 = false := by
    intro fuel
    induction fuel with
    | zero => intro st _; exact ⟨rfl, rfl⟩
    | succ fuel ih =>
      intro st hst
      have hM := noMN_filter hst ["modules", "m"] (st.events ++ [(["modules", "m"], 2)])
      have hN := noMN_filter hst ["modules", "n"] (st.events ++ [(["modules", "n"], 3)])
      exact ⟨loadCtx_fails_of_import (i := ⟨0, ["n"]⟩) rfl rfl (by simp [cexF3M, hM.2]) cexF3_ffN (ih _ hM).2,
        loadCtx_fails_of_import (i := ⟨0, ["m"]⟩) rfl rfl (by simp [cexF3N, hN.1]) cexF3_ffM (ih _ hN).1⟩
  cases fuel with
  | zero => rfl
  | succ fuel =>
    exact loadCtx_fails_of_import (i := ⟨0, ["m"]⟩) rfl rfl (by simp [cexF3A, loadedModule]) cexF3_ffM (key fuel _ ⟨rfl, rfl⟩).1

/-- **Counterexample (finding C10-F5)**: the state after the only importer `a.py` of `modules/m.py` was deleted: the
module context is loaded, no loaded context imports it, its file is unchanged – the plan deletes nothing (and by
`C10_result` the module stays loaded): the result is *not* "auto-loaded files plus the modules they import". -/
theorem C10_result_orphan_cex :
    (plan 3 [mkCtx ["modules", "m"] ["modules", "m"] 2 [] true 1] [mkEnt ["modules", "m"] ["modules", "m"] 2 false]
      .default).map (·.del) = some [] := by
  decide

end PsModel.C10
