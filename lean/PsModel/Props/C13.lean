import PsModel.Lemmas.C13
/-!
# C13 – property theorems: `task.unique` guarantees at most one live owner per name

`run ops` is the state of `function.py`'s bookkeeping after the atomic steps `ops` (any number of tasks and names,
any interleaving of claims, reaper deliveries, exits and foreign tasks) – every theorem below that mentions `run ops`
is proved by induction over `ops`, i.e. for all schedules.
-/
namespace PsModel.C13

set_option linter.unusedSectionVars false
variable {κ : Type} [DecidableEq κ]

/-- **The two maps are mutually inverse and every owner is a running pyscript task** (all reachable states). -/
theorem C13_maps_inv (ops : List (Op κ)) (k : κ) (t : Task) :
    ((run ops).owner k = some t ↔ k ∈ (run ops).names t) ∧
    ((run ops).owner k = some t →
      (run ops).live t = true ∧ (run ops).ours t = true ∧ (run ops).foreign t = false) := by
  have h := inv_run ops
  refine ⟨⟨fun e => (h.own_names k t e).1, h.names_own k t⟩, fun e => ?_⟩
  obtain ⟨_, a, b, _⟩ := h.own_names k t e
  exact ⟨a, b, ((h.ours_iff t).1 b).2⟩

/-- **Mutual exclusion.**  In every reachable state, among the running tasks that ever claimed `k`, at most one has
no cancellation pending or delivered – and that one is the owner reported by `unique_name2task`. -/
theorem C13_mutex (ops : List (Op κ)) (k : κ) (t u : Task)
    (ht : (run ops).claimed k t = true) (hlt : (run ops).live t = true) (hpt : ¬ Pending (run ops) t)
    (hu : (run ops).claimed k u = true) (hlu : (run ops).live u = true) (hpu : ¬ Pending (run ops) u) :
    t = u ∧ (run ops).owner k = some t := by
  have h := inv_run ops
  have e1 : (run ops).owner k = some t := Classical.byContradiction fun e => hpt (h.displaced k t ht hlt e)
  have e2 : (run ops).owner k = some u := Classical.byContradiction fun e => hpu (h.displaced k u hu hlu e)
  rw [e1] at e2
  exact ⟨Option.some.inj e2, e1⟩

/-- **Displacement.**  After `task.unique(k)` by a running pyscript task `t`, every *other* running task that ever
claimed `k` has a cancel pending in the reaper queue or already delivered. -/
theorem C13_displaced (ops : List (Op κ)) (t u : Task) (k : κ)
    (hc : canStep (run ops) t = true) (ho : (run ops).ours t = true) (hne : u ≠ t)
    (hcl : (run (ops ++ [.unique t k false])).claimed k u = true)
    (hl : (run (ops ++ [.unique t k false])).live u = true) :
    Pending (run (ops ++ [.unique t k false])) u := by
  refine (inv_run _).displaced k u hcl hl fun e => hne ?_
  rw [run_append] at e
  exact (Option.some.inj ((unique_owner (run ops) t k hc ho).1.symm.trans e)).symm

/-- **The model's owner map is the spec's** (single map, no reverse map / reaper / `our_tasks`), for every step
sequence; so are liveness and the halted (kill-me) flag. -/
theorem C13_refines_spec (ops : List (Op κ)) :
    (run ops).owner = (Sp.run ops).owner ∧ (run ops).live = (Sp.run ops).alive ∧
    (run ops).parked = (Sp.run ops).halted := by
  have h := sim_run ops
  exact ⟨h.owner, h.live, h.parked⟩

/-- **Ownership.**  After `task.unique(k)` (no kill_me) by a running pyscript task, `name2id(k)` is the caller, and the
caller keeps every other name it owned (a task may own several names). -/
theorem C13_owner (ops : List (Op κ)) (t : Task) (k : κ)
    (hc : canStep (run ops) t = true) (ho : (run ops).ours t = true) :
    (step (run ops) (.unique t k false)).owner k = some t ∧
    (∀ k', k' ∈ (run ops).names t → k' ∈ (step (run ops) (.unique t k false)).names t) ∧
    (∀ k', k' ≠ k → (step (run ops) (.unique t k false)).owner k' = (run ops).owner k') := by
  have h := unique_owner (run ops) t k hc ho
  exact ⟨h.1, h.2, fun k' hk' => (unique_other_keys (run ops) t k k' false hk').1⟩

/-- **kill_me.**  `task.unique(k, kill_me=True)` while another task owns `k`: ownership (both maps) is unchanged, the
owner is a running task, and the caller is handed to the reaper and parked (it cannot run a segment in that state). -/
theorem C13_killme (ops : List (Op κ)) (t o : Task) (k : κ)
    (hc : canStep (run ops) t = true) (hown : (run ops).owner k = some o) (hne : o ≠ t) :
    let s' := step (run ops) (.unique t k true)
    s'.owner = (run ops).owner ∧ s'.names = (run ops).names ∧ (run ops).live o = true ∧
    t ∈ s'.reaperQ ∧ s'.parked t = true ∧ canStep s' t = false := by
  intro s'
  have e : s' = park (run ops) t := by
    show uniqueStep (run ops) t k true = _
    rw [uniqueStep_eq, if_pos hc, if_pos ⟨rfl, o, hown, hne⟩]
  rw [e]
  obtain ⟨a, b, c, d, f⟩ := park_spec (run ops) t
  exact ⟨a, b, ((inv_run ops).own_names k o hown).2.1, c, d, f⟩

/-- kill_me with nobody else owning the name is an ordinary claim -/
theorem C13_killme_free (s : St κ) (t : Task) (k : κ) (h : s.owner k = none ∨ s.owner k = some t) :
    uniqueStep s t k true = uniqueStep s t k false := by
  unfold uniqueStep
  rcases h with h | h
  · simp [h]
  · simp [h, killPrev]

/-- **Release.**  After the `finally` of `run_coro` no name maps to the task, its `unique_task2name` entry and its
`our_tasks` membership are gone, and the deletion loop never raised `KeyError`. -/
theorem C13_release (ops : List (Op κ)) (t : Task) :
    let s := run (ops ++ [.exit t])
    (∀ k, s.owner k ≠ some t) ∧ s.names t = [] ∧ s.entry t = false ∧ s.ours t = false ∧ s.keyErr = false := by
  intro s
  have hl : s.live t = false := by
    show (run (ops ++ [Op.exit t])).live t = false
    rw [run_append]
    show (exitStep _ t).live t = false
    rw [exit_live, if_pos rfl]
  have h : Inv s := inv_run _
  obtain ⟨a, b, c, d⟩ := h.dead_clean t hl
  exact ⟨a, b, c, d, h.no_keyerr⟩

/-- in every reachable state a task that is not running owns nothing and is in no registry -/
theorem C13_dead_clean (ops : List (Op κ)) (t : Task) (hl : (run ops).live t = false) :
    (∀ k, (run ops).owner k ≠ some t) ∧ (run ops).names t = [] ∧ (run ops).entry t = false ∧
    (run ops).ours t = false := by
  exact (inv_run ops).dead_clean t hl

/-- **Context separation, part 1: a call touches one key.**  `task.unique` on key `k` changes no other entry of
`unique_name2task` and no other member of any `unique_task2name` set; the new subsystem's `@task_unique` on key `k`
changes no other entry of `unique_name2task`. -/
theorem C13_other_keys (ops : List (Op κ)) (t : Task) (k k' : κ) (km : Bool) (hk : k' ≠ k) :
    (step (run ops) (.unique t k km)).owner k' = (run ops).owner k' ∧
    (∀ u, k' ∈ (step (run ops) (.unique t k km)).names u ↔ k' ∈ (run ops).names u) ∧
    (step (run ops) (.decoNew t k km)).owner k' = (run ops).owner k' := by
  have h := unique_other_keys (run ops) t k k' km hk
  refine ⟨h.1, h.2, ?_⟩
  show (decoNewStep (run ops) t k km).owner k' = _
  unfold decoNewStep
  split
  · exact (unique_other_keys (run ops) t k k' false hk).1
  · rfl

/-- **Context separation, part 2 – the code as it is now** (keys are the tuples `(ctx_name, name)`, /repo ef1f444):
keys of two *different* contexts never coincide, whatever dots the context names or the task names contain;
`task.name2id()` of one context shows none of the other's names and all of its own; within a context different names
are different keys. -/
theorem C13_ctx_sep (c c' n n' : Str) (h : c ≠ c') :
    keyOf current.tupleKeys c n ≠ keyOf current.tupleKeys c' n' ∧
    viewOf current.tupleKeys c (keyOf current.tupleKeys c' n') = none ∧
    viewOf current.tupleKeys c (keyOf current.tupleKeys c n) = some n ∧
    (keyOf current.tupleKeys c n = keyOf current.tupleKeys c n' → n = n') := by
  exact ⟨keyOf_tuple_ne c c' n n' h, (viewOf_tuple c c' n').trans (if_neg fun e => h e.symm),
    (viewOf_tuple c c n).trans (if_pos rfl), fun e => (Prod.mk.inj (e : (c, n) = (c, n'))).2⟩

/-- **Regression statement about the pre-fix key scheme** (`f"{ctx}.{name}"` + `startswith`): it separated contexts
provided neither dotted context name is a prefix of the other (`Sep`). -/
theorem C13_regress_ctx_sep_partial (c c' n n' : Str) (h : Sep c c') :
    keyOf preFix.tupleKeys c n ≠ keyOf preFix.tupleKeys c' n' ∧
    viewOf preFix.tupleKeys c (keyOf preFix.tupleKeys c' n') = none ∧
    viewOf preFix.tupleKeys c (keyOf preFix.tupleKeys c n) = some n ∧
    (keyOf preFix.tupleKeys c n = keyOf preFix.tupleKeys c n' → n = n') := by
  exact ⟨fun e => mkKey_ne_of_sep c c' n n' h (Prod.mk.inj (e : (mkKey c n, ([] : Str)) = (mkKey c' n', []))).1,
    viewName_other c c' n' h, viewName_own c n,
    fun e => mkKey_inj_name c n n' (Prod.mk.inj (e : (mkKey c n, ([] : Str)) = (mkKey c n', []))).1⟩

/-- **Regression witness (C13-F2 / F2b, fixed by /repo ef1f444)**: with the pre-fix scheme the *nested* context names
of `scripts/a.py` and `scripts/a/b.py` collide – name `"b.x"` of `scripts.a` and name `"x"` of `scripts.a.b` are one
key, and `name2id()` of `scripts.a` lists the other context's name; with tuple keys neither happens. -/
theorem C13_regress_ctx_sep_nested :
    (keyOf false "scripts.a".toList "b.x".toList = keyOf false "scripts.a.b".toList "x".toList ∧
     viewOf false "scripts.a".toList (keyOf false "scripts.a.b".toList "x".toList) = some "b.x".toList) ∧
    (keyOf true "scripts.a".toList "b.x".toList ≠ keyOf true "scripts.a.b".toList "x".toList ∧
     viewOf true "scripts.a".toList (keyOf true "scripts.a.b".toList "x".toList) = none) := by
  decide

/-- **Foreign tasks.**  The only way a task that pyscript did not start gets onto the reaper queue is its own
`task.unique(…, kill_me=True)` call. -/
theorem C13_foreign (ops : List (Op κ)) (op : Op κ) (x : Task)
    (hin : x ∈ (step (run ops) op).reaperQ) (hnew : x ∉ (run ops).reaperQ) (hf : (run ops).foreign x = true) :
    ∃ k, op = .unique x k true := by
  rcases step_new_in_queue (run ops) op x (inv_run ops) hin hnew with h | h
  · exact h
  · rw [hf] at h; cases h

/-- a foreign task with a cancel pending or delivered asked for it itself (all reachable states) -/
theorem C13_foreign_never_cancelled (ops : List (Op κ)) (t : Task) (hf : (run ops).foreign t = true)
    (hp : Pending (run ops) t) : (run ops).selfEnq t = true :=
  (inv_run ops).foreign_q t hf hp

/-- **`@task_unique`, new subsystem** (`TaskUniqueDecorator.handle_call`, first segment of the new task): it is the
`task.unique` rule with the decorator's `kill_me` whenever the function body is allowed to run (`handle_call` claims
without `kill_me`; where it gets that far the two agree, `C13_killme_free`); the body is refused only with `kill_me=True`
and the name in use, and then nothing changes. -/
theorem C13_decorator_new (s : St κ) (t : Task) (k : κ) (km : Bool) :
    (decoRuns s k km = true → decoNewStep s t k km = uniqueStep s t k km) ∧
    (decoRuns s k km = false → decoNewStep s t k km = s ∧ km = true ∧ ∃ o, s.owner k = some o) := by
  unfold decoNewStep decoRuns nameUsed
  cases km
  · exact ⟨fun _ => rfl, fun h => nomatch h⟩
  · cases ho : s.owner k with
    | none => exact ⟨fun _ => (C13_killme_free s t k (Or.inl ho)).symm, fun h => nomatch h⟩
    | some o => exact ⟨(fun h => nomatch h), fun _ => ⟨rfl, rfl, o, rfl⟩⟩

/-- **`@task_unique`, legacy subsystem – the code as it is now** (`call_action` checks `unique_name_used` in the
trigger loop; the new task starts with `task_unique(name, kill_me=…)`, /repo a7d4ccd).  Whatever happened between the
dispatcher's check and the first segment of the new task (no proviso, unlike
`C13_regress_decorator_legacy_partial`): the first segment *is* the
`task.unique` rule with the decorator's `kill_me`; ownership afterwards is what the new subsystem's decorator produces
in the same state; and a fresh task goes on to run its body exactly when the new subsystem's decorator would let it
run – with `kill_me=True` and the name owned by somebody else the new run parks itself and the owner is untouched. -/
theorem C13_decorator_legacy (s : St κ) (t : Task) (k : κ) (km : Bool) :
    decoLegacyStep current s t k km = uniqueStep s t k km ∧
    (decoLegacyStep current s t k km).owner = (decoNewStep s t k km).owner ∧
    (canStep s t = true → s.owner k ≠ some t →
      canStep (decoLegacyStep current s t k km) t = decoRuns s k km) := by
  have e0 : decoLegacyStep current s t k km = uniqueStep s t k km := by
    unfold decoLegacyStep; rw [current_eq]; rfl
  rw [e0]
  obtain ⟨runs, stays⟩ := C13_decorator_new s t k km
  cases hr : decoRuns s k km
  · -- kill_me and the name in use
    obtain ⟨e, hkm, o, ho⟩ := stays hr
    rw [e, hkm]
    refine ⟨rfl, ?_, fun hc hne => ?_⟩
    · rcases uniqueStep_cases s t k true with ⟨_, e⟩ | ⟨_, _, e⟩ | ⟨_, hb, e⟩ <;> rw [e]
      · rfl
      · -- the owner itself calls: it re-claims its own name
        have hot : o = t := Classical.byContradiction fun hne => hb ⟨rfl, o, ho, hne⟩
        have : afterKill s t k = s := by unfold afterKill killPrev; rw [ho]; exact if_neg fun h => h.1 hot
        rw [this]
        by_cases hours : s.ours t = true
        · rw [claim_eq s t k hours]
          exact upd_eq_self s.owner k (some t) (hot ▸ ho)
        · rw [claim_not_ours s t k hours]
    · rw [uniqueStep_eq, if_pos hc, if_pos ⟨rfl, o, ho, fun e => hne (e ▸ ho)⟩]
      exact (park_spec s t).2.2.2.2
  · rw [runs hr]
    refine ⟨rfl, rfl, fun hc hne => ?_⟩
    rcases uniqueStep_cases s t k km with ⟨hn, _⟩ | ⟨_, ⟨hkm, o, ho, _⟩, _⟩ | ⟨_, _, e⟩
    · exact absurd hc hn
    · rw [decoRuns, nameUsed, hkm, ho] at hr; cases hr
    · obtain ⟨q, eq⟩ := afterKill_eq s t k
      unfold canStep
      rw [e, (claim_queue _ t k).2.2.2.2.2, (claim_queue _ t k).2.2.2.2.1, eq]
      exact hc

/-- **Regression statement about the pre-fix shape** (claim without `kill_me`): it equalled the new subsystem's rule
*provided the owner of the name did not change between the check (state `s0`) and the first segment of the new
task (state `s`)*. -/
theorem C13_regress_decorator_legacy_partial (s0 s : St κ) (t : Task) (k : κ) (km : Bool)
    (hcheck : decoRuns s0 k km = true) (hsame : s.owner k = s0.owner k) :
    decoLegacyStep preFix s t k km = decoNewStep s t k km := by
  unfold decoNewStep
  have : decoRuns s k km = true := by
    unfold decoRuns nameUsed at hcheck ⊢; rw [hsame]; exact hcheck
  simp [this, decoLegacyStep, preFix]

/-- **Regression witness (C13-F1, fixed by /repo a7d4ccd)**: two occurrences of a `kill_me=True` function dispatched in
the same instant; both dispatcher checks see the name free.  Pre-fix the second run displaced the first (cancel queued
for task 0); now the second run parks itself and queues *itself* – exactly what the new subsystem's decorator gives
(task 0 keeps the name). -/
theorem C13_regress_decorator_legacy_race :
    let s0 : St Nat := run [.spawn 0 false, .spawn 1 false]
    let go := fun (cfg : Cfg) => decoLegacyStep cfg (decoLegacyStep cfg s0 0 7 true) 1 7 true
    decoRuns (init : St Nat) 7 true = true ∧
    ((go preFix).owner 7 = some 1 ∧ (go preFix).reaperQ = [0] ∧ (go preFix).parked 1 = false) ∧
    ((go current).owner 7 = some 0 ∧ (go current).reaperQ = [1] ∧ (go current).parked 1 = true) ∧
    (run [.spawn 0 false, .spawn 1 false, .decoNew 0 (7 : Nat) true, .decoNew 1 7 true]).owner 7 = some 0 := by
  decide

/-- **`@task_unique` with the empty name, legacy subsystem – the code as it is now** (/repo dc7ca82): whatever the name,
the guarded first segment is the claim. -/
theorem C13_decorator_legacy_any_name (s : St κ) (t : Task) (k : κ) (km nonEmpty : Bool) :
    decoLegacyNamed current s t k km nonEmpty = uniqueStep s t k km := by
  simp [decoLegacyNamed, decoLegacyStep, current_eq]

/-- **Regression witness (C13-F3, fixed by /repo dc7ca82)**: with the truthiness guard two runs of a function decorated
`@task_unique("")` (key 7 here) both stayed alive – neither claimed; now the second displaces the first. -/
theorem C13_regress_decorator_legacy_empty_name :
    let s0 : St Nat := run [.spawn 0 false, .spawn 1 false]
    let go := fun (cfg : Cfg) => decoLegacyNamed cfg (decoLegacyNamed cfg s0 0 7 false false) 1 7 false false
    ((go preFix).owner 7 = none ∧ (go preFix).reaperQ = []) ∧
    ((go current).owner 7 = some 1 ∧ (go current).reaperQ = [0]) ∧
    (decoLegacyNamed preFix s0 0 7 false true).owner 7 = some 0 := by
  decide

/-- **The reaper finishes the job.**  Under the runtime assumption that a cancelled task ends at its next suspension
point (`reapCycle` = deliver, then that task's `finally`), once the reaper has worked through its queue the queue is
empty and every task that was on it has ended – from any state: the reaper (/repo 32185a9) never waits. -/
theorem C13_reaper_drains (s : St κ) :
    (drain s.reaperQ.length s).reaperQ = [] ∧ ∀ t ∈ s.reaperQ, (drain s.reaperQ.length s).live t = false := by
  obtain ⟨a, c, _⟩ := drain_spec s.reaperQ.length s rfl
  exact ⟨a, c⟩


/-! ### the done-callback phase of `run_coro`'s `finally`

Between the end of its body (`endBody`) and the release block (`exit`) a task runs its done-callbacks: further segments of
the same, still running task, which may suspend – so every other task's steps, `task.unique` included, interleave with
them – and may call `task.unique` themselves.  `run ops` ranges over all such interleavings, hence `C13_maps_inv`,
`C13_mutex`, `C13_displaced`, `C13_release` … hold across the callback phase as they stand.  What is special about the
phase is stated here. -/

/-- **The end of a task's body releases nothing.**  Both maps, `our_tasks`, the reaper queue and every pending
cancellation are untouched; the task is running, owns what it owned, and – even if it had been halted by kill_me – runs
segments again (its done-callbacks). -/
theorem C13_body_end_keeps_names (s : St κ) (t : Task) (hl : s.live t = true) :
    let s' := step s (.endBody t)
    s'.owner = s.owner ∧ s'.names = s.names ∧ s'.entry = s.entry ∧ s'.ours = s.ours ∧ s'.live = s.live ∧
    s'.reaperQ = s.reaperQ ∧ s'.cancelReq = s.cancelReq ∧ canStep s' t = true := by
  intro s'
  have e : s' = { s with parked := upd s.parked t false } := by
    show endBodyStep s t = _
    rw [endBody_eq, if_pos hl]
  rw [e]
  refine ⟨rfl, rfl, rfl, rfl, rfl, rfl, rfl, ?_⟩
  show (s.live t && !upd s.parked t false t) = true
  rw [upd_same, hl]; rfl

/-- **A name changes hands in exactly two ways** (all reachable states, every step – the steps of the owner's own
done-callbacks and everybody else's steps during them included): the owner's release block runs (`exit`), or somebody
claims that very key.  In particular the release block of ANOTHER task never takes a name away from its owner, whatever
that other task owned earlier. -/
theorem C13_name_kept (ops : List (Op κ)) (op : Op κ) (k : κ) (t : Task)
    (hown : (run ops).owner k = some t) (hx : op ≠ .exit t)
    (hu : ∀ u km, op ≠ .unique u k km) (hd : ∀ u km, op ≠ .decoNew u k km) :
    (step (run ops) op).owner k = some t := by
  exact step_owner_kept (run ops) op k t (inv_run ops).maps hown hx hu hd

/-- **A claim that arrives while the owner is inside a (suspended) done-callback** – the schedule of seeded change
C13_7: task 0 owns key 7, its body ends, its done-callback suspends; task 1 claims 7 (task 0 is handed to the reaper, its
set loses the name), the reaper delivers, task 0's callback is cancelled and its release block runs: task 1 is STILL the
owner in both maps; a third claimer then displaces task 1, not nobody.  And a name claimed BY a done-callback (key 9,
claimed by task 0 after its body ended) is released by the release block that follows. -/
theorem C13_claim_during_callback :
    let pre : List (Op Nat) := [.spawn 0 false, .spawn 1 false, .spawn 2 false, .unique 0 7 false, .endBody 0,
                                .unique 0 9 false, .unique 1 7 false]
    let s1 := run pre
    let s2 := run (pre ++ [.reap, .exit 0])
    let s3 := run (pre ++ [.reap, .exit 0, .unique 2 7 false])
    (s1.owner 7 = some 1 ∧ s1.owner 9 = some 0 ∧ s1.names 0 = [9] ∧ s1.names 1 = [7] ∧ s1.reaperQ = [0]) ∧
    (s2.owner 7 = some 1 ∧ s2.names 1 = [7] ∧ s2.owner 9 = none ∧ s2.entry 0 = false ∧ s2.live 0 = false ∧
     s2.live 1 = true) ∧
    (s3.owner 7 = some 2 ∧ s3.reaperQ = [1]) := by
  decide

/-- a task halted by `kill_me` whose cancellation was delivered runs its done-callbacks, and a done-callback may claim:
task 1 parks on key 7 (owned by task 0), is reaped, its body ends, its callback claims key 8 and keeps it until its
release block -/
theorem C13_halted_task_runs_callbacks :
    let pre : List (Op Nat) := [.spawn 0 false, .spawn 1 false, .unique 0 7 false, .unique 1 7 true, .reap]
    (canStep (run pre) 1 = false ∧ (run pre).cancelReq 1 = true) ∧
    (canStep (run (pre ++ [.endBody 1])) 1 = true ∧
     (run (pre ++ [.endBody 1, .unique 1 8 false])).owner 8 = some 1 ∧
     (run (pre ++ [.endBody 1, .unique 1 8 false])).owner 7 = some 0 ∧
     (run (pre ++ [.endBody 1, .unique 1 8 false, .exit 1])).owner 8 = none) := by
  decide

/-- **The extracted shape is the proved shape.**  `Shape.extracted` / `shapeFacts` are regenerated from the working tree
on every run (`tools/extractors/C13.py`): block order and guards of `task_unique`, the maps a claim stores into, the
registries the release block of `run_coro` clears and their order, one FIFO reaper queue, release inside a `finally`
without an await, dispatcher check before the task is made, decorator = check + plain claim. -/
theorem C13_shape_tie : Shape.extracted = Shape.proved ∧ shapeFacts = [true, true, true, true, true] := by
  decide

/-- `task_unique` assembled from the shape table is the `uniqueStep` the theorems are about -/
theorem C13_shape_unique (s : St κ) (t : Task) (k : κ) (km : Bool) :
    uniqueStepSh Shape.proved s t k km = uniqueStep s t k km := by
  unfold uniqueStepSh
  rw [uniqueStep_eq, killArmSh_proved, claimSh_proved]
  cases canStep s t
  · rfl
  · by_cases hb : km = true ∧ ∃ o, s.owner k = some o ∧ o ≠ t
    · simp only [hb, if_true]; rfl
    · simp only [hb, if_false]; rfl

/-- the release block assembled from the order table is the `exitStep` the theorems are about -/
theorem C13_shape_release (s : St κ) (t : Task) : exitStepSh Shape.proved s t = exitStep s t := by
  unfold exitStepSh exitStep
  cases s.live t
  · rfl
  · cases he : s.entry t
    · simp [releaseAll, releaseOne, Shape.proved, he]
    · cases hd : delErr s.owner (s.names t) <;> simp [releaseAll, releaseOne, Shape.proved, he, hd]

/-- **The model the driver replays observed runs with – every step assembled from the extracted tables and flags – is
the model of the theorems.** -/
theorem C13_shape_step (s : St κ) (op : Op κ) : stepSh Shape.extracted current s op = step s op := by
  rw [C13_shape_tie.1]
  cases op with
  | spawn t fg => rfl
  | unique t k km => exact C13_shape_unique s t k km
  | reap => rfl
  | exit t => exact C13_shape_release s t
  | decoNew t k km =>
    simp only [stepSh, step, decoNewStep]
    split
    · exact C13_shape_unique s t k false
    · rfl
  | endBody t => rfl

/-- each extracted guard matters: with the `task in our_tasks` conjunct of the displacing arm gone a task that pyscript
did not start is handed to the reaper (`C13_foreign` fails); with the `discard` gone the maps stop being inverse; with
`unique_name2task` missing from the release order a dead task keeps its name -/
theorem C13_shape_flags_matter :
    let pre : List (Op Nat) := [.spawn 0 true, .spawn 1 false]
    let s := run pre
    (uniqueStepSh { Shape.proved with killOnlyOurs := false }
        ({ s with owner := upd s.owner 7 (some 0) }) 1 7 false).reaperQ = [0] ∧
    (uniqueStepSh Shape.proved ({ s with owner := upd s.owner 7 (some 0) }) 1 7 false).reaperQ = [] ∧
    (let s2 := run [.spawn 0 false, .spawn 1 false, .unique 0 7 false]
     (uniqueStepSh { Shape.proved with claimDiscardsOld := false } s2 1 7 false).names 0 = [7] ∧
     (uniqueStepSh Shape.proved s2 1 7 false).names 0 = [] ∧
     (exitStepSh { Shape.proved with releaseOrder := [.unique_task2name, .our_tasks] } s2 0).owner 7 = some 0 ∧
     (exitStepSh Shape.proved s2 0).owner 7 = none) := by
  decide

/-! non-vacuity of the hypotheses used above -/
example : canStep (run [Op.spawn 0 false, Op.unique 0 (3 : Nat) false]) 0 = true ∧
    (run [Op.spawn 0 false, Op.unique 0 (3 : Nat) false]).ours 0 = true ∧
    (run [Op.spawn 0 false, Op.unique 0 (3 : Nat) false]).owner 3 = some 0 := by decide
example : (run [Op.spawn 0 false, Op.spawn 1 true, Op.unique 0 (3 : Nat) false, Op.unique 1 3 true]).foreign 1 = true ∧
    (run [Op.spawn 0 false, Op.spawn 1 true, Op.unique 0 (3 : Nat) false, Op.unique 1 3 true]).reaperQ = [1] := by decide
example : Sep "file.a".toList "file.b".toList := by
  unfold Sep; decide

end PsModel.C13
