import PsModel.Lemmas.C20
/-!
# C20 – property theorems (requirements resolution)

Only property statements live here; helper lemmas are in `Lemmas/C20.lean`.
`ver` is an arbitrary version type with `VerOk ver` (`<=` a total preorder; sentinel and "" are not versions);
`cfg` carries the deviation parameters.  `current` = the code today: every field is GENERATED from requirements.py on
every run (`Gen/ReqTbl.lean`), as are the case split (`Gen.REQ_MERGE_ROWS`) and the per-package install decision
(`Gen.REQ_DECIDE_ROWS`) that `branch` / `decidePkg` interpret – so every theorem below that mentions `current`, `branch`,
`decidePkg`, `parseLine` … is re-checked against what the code says now.  `Cfg.round3` / `Cfg.preFix` / `Cfg.preBomFix` are
hand-written earlier shapes, used only by the `_regress_` theorems.
-/
namespace PsModel.C20
variable {V : Type}

/-- **Order independence, full strength – the code today** (`current`: a pin is validated as soon as it is split
off, `fix:` e2ec6b7).  For ANY two arrangements of the same multiset of (file, line) pairs – no hypothesis on the lines
whatsoever – the version recorded for every package is the same up to `Version` equality, whatever is installed. -/
theorem C20_order_full (ver : Ver V) (ok : VerOk ver) (site site' : Str → Option Str)
    (ls ls' : List (Nat × Str)) (hperm : ls.Perm ls') (p : Str) :
    VEquiv ver (versionOf (mergeAll current ver site ls) p) (versionOf (mergeAll current ver site' ls') p) :=
  order_of_good current ver ok site site' ls ls' hperm p (news_good_of_fix current ver rfl p ls)

/-- the same for every configuration that validates the first pin, whatever its rejection set -/
theorem C20_order_full_of_validate (cfg : Cfg) (hfix : cfg.validateFirstPin = true) (ver : Ver V) (ok : VerOk ver)
    (site site' : Str → Option Str) (ls ls' : List (Nat × Str)) (hperm : ls.Perm ls') (p : Str) :
    VEquiv ver (versionOf (mergeAll cfg ver site ls) p) (versionOf (mergeAll cfg ver site' ls') p) :=
  order_of_good cfg ver ok site site' ls ls' hperm p (news_good_of_fix cfg ver hfix p ls)

/-- **Order independence on the well-formed-pin fragment**, whatever the configuration (in particular for the
pre-fix shape `Cfg.preFix`, where this is all that holds): for ANY two arrangements of the same multiset of
(file, line) pairs in which every pin the code sees is a version (or the sentinel string), the version recorded for
every package is the same up to `Version` equality. -/
theorem C20_order_partial (cfg : Cfg) (ver : Ver V) (ok : VerOk ver) (site site' : Str → Option Str)
    (ls ls' : List (Nat × Str)) (hperm : ls.Perm ls') (hgood : ∀ l ∈ ls, GoodLine cfg ver l.2) (p : Str) :
    VEquiv ver (versionOf (mergeAll cfg ver site ls) p) (versionOf (mergeAll cfg ver site' ls') p) :=
  order_of_good cfg ver ok site site' ls ls' hperm p (news_good_of_lines cfg ver p ls hgood)

/-- **A pin that is not a version is ignored** by the code today, wherever it stands and whatever is recorded
(malformed `p==abc`, empty `p==`, sentinel `p==_unpinned_version`: `VerOk` says the last two are not versions). -/
theorem C20_invalid_pin_ignored (ver : Ver V) (site : Str → Option Str) (t : Table) (src : Nat) (raw n v : Str)
    (hp : parseLine current raw = some (n, some v)) (hv : ver.parse v = none) :
    processLine current ver site t (src, raw) = t := by
  have hr : rejectedByFix current ver (some v) = true := by
    simp [rejectedByFix, current, Gen.REQ_VALIDATE_FIRST_PIN, hv]
  simp only [processLine, meaning, hp, hr, if_true]

/-- **A byte-order mark changes nothing** for the code today: a file that starts with one yields exactly the lines
that follow the mark, whatever they are; a file without one is read as it is -/
theorem C20_bom_ignored (id : Nat) (dir : List Str) (l : Str) (ls : List Str) :
    fileLines current ⟨id, dir, (BOM :: l) :: ls⟩ = (l :: ls).map (fun x => (id, x)) ∧
    (l.head? ≠ some BOM → fileLines current ⟨id, dir, l :: ls⟩ = (l :: ls).map (fun x => (id, x))) := by
  constructor
  · simp [fileLines, decodeLines, current, Gen.REQ_STRIP_BOM]
  · intro h
    cases l with
    | nil => simp [fileLines, decodeLines, current, Gen.REQ_STRIP_BOM]
    | cons c cs =>
      have hc : c ≠ BOM := fun e => h (by simp [e])
      simp [fileLines, decodeLines, current, Gen.REQ_STRIP_BOM, hc]

/-- **Highest pin** (partial: exactly the fragment outside findings C20-F6/F7).  When every line means to the
code what it means to the reference (plain name written in its normal form, pin is a version – or the line is ignored
by both), the recorded version of every package is a correct selection in the
sense of `Selected`: a highest valid pin; the unpinned marker only if no pin exists; nothing if no line names it. -/
theorem C20_highest (cfg : Cfg) (ver : Ver V) (ok : VerOk ver) (site : Str → Option Str) (ls : List (Nat × Str))
    (hspec : ∀ l ∈ ls, meaning cfg ver l.2 = specLine ver l.2) (p : Str) :
    Selected ver (ls.filterMap (fun l => specLine ver l.2)) p (versionOf (mergeAll cfg ver site ls) p) :=
  selected_mergeAll cfg ver ok site ls hspec p

/-- **Blank and comment lines are ignored**, wherever they stand. -/
theorem C20_blank_comment_ignored (cfg : Cfg) (ver : Ver V) (site : Str → Option Str) (t : Table) (src : Nat)
    (raw : Str) (h : ∀ c ∈ cutComment raw, isWs c = true) : processLine cfg ver site t (src, raw) = t := by
  exact processLine_of_parse_none cfg ver site t (src, raw)
    (parseLine_of_body_nil cfg raw (by rw [body_eq]; exact strip_allWs _ h))

/-- **An inline comment does not change what a line means.** -/
theorem C20_inline_comment_ignored (cfg : Cfg) (raw tail : Str) (h : '#' ∉ raw) :
    parseLine cfg (raw ++ '#' :: tail) = parseLine cfg raw := by
  simp only [parseLine, parseLineWith, body, cutComment_append_hash raw tail h, cutComment_no_hash raw h]

/-- **Unsupported specifiers are ignored**: a line whose body contains a pattern of the configuration's rejection
set as a substring, or more than one `==`. -/
theorem C20_range_specifier_ignored (cfg : Cfg) (ver : Ver V) (site : Str → Option Str) (t : Table) (src : Nat)
    (raw : Str) (h : hasSpecPat cfg.specPats (body raw) = true ∨ 2 < (splitEq (body raw) []).length) :
    processLine cfg ver site t (src, raw) = t :=
  processLine_of_parse_none cfg ver site t (src, raw) (parseLine_of_parts_none cfg raw
    (h.elim (parseParts_of_specPat _ _ _) (parseParts_of_many_parts _ _ _)))

/-- for the code today that set is `,` `>` `<` `~=` `!=`: every line whose body is `pre ++ pat ++ post` for one of
these five patterns – all `>=` `<=` `>` `<` `~=` `!=` and `,`-joined forms – is ignored (`fix:` d07dfc5 / 5d02a52) -/
theorem C20_unsupported_specifier_ignored (ver : Ver V) (site : Str → Option Str) (t : Table) (src : Nat)
    (raw pat pre post : Str) (hp : pat ∈ [",".toList, ">".toList, "<".toList, "~=".toList, "!=".toList])
    (h : body raw = pre ++ pat ++ post) : processLine current ver site t (src, raw) = t := by
  refine C20_range_specifier_ignored current ver site t src raw (Or.inl ?_)
  rw [h]
  exact hasSpecPat_of_sub _ pat pre post hp

/-- lines that do not parse can be deleted anywhere without changing the resulting table (not just the versions) -/
theorem C20_ignored_lines_irrelevant (cfg : Cfg) (ver : Ver V) (site : Str → Option Str) (ls : List (Nat × Str)) :
    mergeAll cfg ver site ls = mergeAll cfg ver site (ls.filter (fun l => (parseLine cfg l.2).isSome)) := by
  unfold mergeAll
  apply foldl_filter_irrelevant
  intro t l hl
  cases hp : parseLine cfg l.2 with
  | none => exact processLine_of_parse_none cfg ver site t l hp
  | some x => simp [hp] at hl

/-- the merged table is a well-formed dict: one row per (non-empty) package name, and the installed-version column
is what the site reports for that name -/
theorem C20_table_wellformed (cfg : Cfg) (ver : Ver V) (site : Str → Option Str) (ls : List (Nat × Str)) :
    ((mergeAll cfg ver site ls).map (·.name)).Nodup ∧
    ∀ e ∈ mergeAll cfg ver site ls, e.installed = site e.name ∧ e.name ≠ [] :=
  tableOk_mergeAll cfg ver site ls

/-- **Nothing without opt-in.**  If any requirement is present and `allow_all_imports` is off, the installer is not
called, the record and the world are unchanged, the config entry is not updated. -/
theorem C20_nothing_without_optin (cfg : Cfg) (ver : Ver V) (w : World) (r : Rec) (ls : List (Nat × Str))
    (h : mergeAll cfg ver w.installed ls ≠ []) :
    (runOnce cfg ver w false r ls).1 = w ∧ (runOnce cfg ver w false r ls).2.args = none ∧
    (runOnce cfg ver w false r ls).2.rec' = r ∧ (runOnce cfg ver w false r ls).2.updated = false ∧
    (runOnce cfg ver w false r ls).2.exc = none := by
  have hb : phase1 cfg ver false (mergeAll cfg ver w.installed ls) (readRec cfg r) = .blocked := by
    unfold phase1
    rw [optinGuard_eq]
    cases hm : mergeAll cfg ver w.installed ls with
    | nil => exact absurd hm h
    | cons x xs => simp
  simp [runOnce, hb]

/-- **The tables read off the source are the decision procedures the theorems reason about**: interpreting the
generated rows of the case split (`Gen.REQ_MERGE_ROWS`: `not cur` → record, unpinned-vs-pinned precedence in both
directions, equal → add source, lower → replace, higher → ignore, `ValueError` → skip) and of the per-package install
decision (`Gen.REQ_DECIDE_ROWS`: not installed → install; unpinned → never install, forget on a text difference;
recorded but another version installed → forget; recorded and pinned differently → install; otherwise – in particular
installed and NOT recorded – nothing) gives exactly the hand-written functions `branchRef` / `decidePkgRef`. -/
theorem C20_generated_rows_are_reference (cfg : Cfg) (ver : Ver V) :
    (∀ cur new, branch ver cur new = branchRef ver cur new) ∧
    (∀ recd e, decidePkg cfg ver recd e = decidePkgRef cfg ver recd e) :=
  ⟨branch_eq_ref ver, decidePkg_eq_ref cfg ver⟩

/-- the generated configuration is, value for value, the hand-written `Cfg.round4` (rejection substrings
`,` `>` `<` `~=` `!=`, first pin validated, byte-order mark stripped, versions compared through `same_version` since the
repair of C20-F9; names still compared as the open findings C20-F6/F7 describe, nothing recorded after an installer
failure, C20-F5), and the other shape parameters are the ones the model was written for -/
theorem C20_current_shape :
    current = Cfg.round4 ∧ Gen.REQ_COMMENT_MARK = '#' ∧ Gen.REQ_STRIP_AFTER_COMMENT = true ∧ Gen.REQ_SKIP_BLANK = true ∧
    Gen.REQ_PIN_SEP = ('=', '=') ∧ Gen.REQ_MAX_PARTS = 2 ∧ Gen.REQ_OPTIN_GUARD = true :=
  ⟨current_eq, mark_eq, rfl, skipBlank_eq, pinSep_eq, maxParts_eq, optinGuard_eq⟩

/-- **Exactly the reference install rule.**  For a table with unique names, a package goes to the installer iff
it is not installed, or pyscript recorded the version that is installed and a different version is pinned now
(`ShouldInstall`); and the installer gets nothing that is not in the table. -/
theorem C20_install_iff (cfg : Cfg) (ver : Ver V) (ok : VerOk ver) (allow : Bool) (t : Table)
    (hnd : (t.map (·.name)).Nodup) (r r1 : Rec) (ti : List Entry) (h : phase1 cfg ver allow t r = .go r1 ti) :
    (∀ e ∈ t, e ∈ ti ↔ ShouldInstall ver (rget r e.name) e) ∧ (∀ x ∈ ti, x ∈ t) := by
  obtain ⟨_, hraise, _, hti⟩ := phase1_go cfg ver allow t hnd r r1 ti h
  subst hti
  constructor
  · intro e he
    rw [mem_installs, (decidePkg_iff cfg ver ok _ e (not_raise_of_raises_false cfg ver r t hraise e he)).1]
    exact ⟨fun h => h.2, fun h => ⟨he, h⟩⟩
  · intro x hx; exact ((mem_installs cfg ver r t x).1 hx).1

/-- **Never override the host.**  A package that is installed and that pyscript has no record of is never passed
to the installer – under any name-equal row, any pins, any flag. -/
theorem C20_foreign_untouched (cfg : Cfg) (ver : Ver V) (ok : VerOk ver) (allow : Bool) (t : Table)
    (hnd : (t.map (·.name)).Nodup) (r r1 : Rec)
    (ti : List Entry) (h : phase1 cfg ver allow t r = .go r1 ti) (e : Entry) (he : e ∈ t) (inst : Str)
    (hinst : truthy e.installed = some inst) (hrec : rget r e.name = none) :
    ∀ x ∈ ti, x.name ≠ e.name := by
  obtain ⟨hiff, hsub⟩ := C20_install_iff cfg ver ok allow t hnd r r1 ti h
  intro x hx hn
  cases eq_of_name_eq t hnd x e (hsub x hx) he hn
  exact not_shouldInstall_unrecorded ver e inst hinst (hrec ▸ (hiff e he).1 hx)

/-- **Own packages are updated exactly when the pin differs.**  For an installed package that pyscript recorded:
it is (re)installed iff the installed version still is the recorded one and a pinned, different version is
required (`SameV`: the same text, or equal as versions). -/
theorem C20_own_updated_iff (cfg : Cfg) (ver : Ver V) (ok : VerOk ver) (allow : Bool) (t : Table)
    (hnd : (t.map (·.name)).Nodup) (r r1 : Rec)
    (ti : List Entry) (h : phase1 cfg ver allow t r = .go r1 ti) (e : Entry) (he : e ∈ t) (inst rv : Str)
    (hinst : truthy e.installed = some inst) (hrec : rget r e.name = some rv) :
    e ∈ ti ↔ (e.version ≠ UNP ∧ SameV ver rv inst ∧ ¬ SameV ver e.version inst) := by
  rw [(C20_install_iff cfg ver ok allow t hnd r r1 ti h).1 e he, hrec]
  exact shouldInstall_recorded ver rv e inst hinst

/-- **The record matches what was done.**  After the run the record of every package `m` is: the version just
handed to the installer; nothing if the package turned out to be changed externally (`decidePkg = pop` ⇔
`ExternallyChanged`); otherwise what it was – in particular for packages that no file mentions any more; and in each
case a sentinel value is replaced by the version found installed afterwards, the entry dropped if there is none
(`resolveRule`). -/
theorem C20_record_matches (cfg : Cfg) (ver : Ver V) (ok : VerOk ver) (allow : Bool) (t : Table)
    (hnd : (t.map (·.name)).Nodup) (r r1 : Rec)
    (ti : List Entry) (h : phase1 cfg ver allow t r = .go r1 ti) (hk : ((r.map (·.1))).Nodup)
    (site' : Str → Option Str) (m : Str) :
    rget (phase2 site' r1 ti) m = resolveRule site' m (recordRule cfg ver t r m) ∧
    (∀ e ∈ t, decidePkg cfg ver (rget r e.name) e = .pop ↔ ExternallyChanged ver (rget r e.name) e) ∧
    (∀ e ∈ t, decidePkg cfg ver (rget r e.name) e = .install ↔ ShouldInstall ver (rget r e.name) e) := by
  obtain ⟨_, hraise, _, _⟩ := phase1_go cfg ver allow t hnd r r1 ti h
  exact ⟨rget_phase2 cfg ver allow t hnd r r1 ti h hk site' m,
    fun e he => (decidePkg_iff cfg ver ok _ e (not_raise_of_raises_false cfg ver r t hraise e he)).2,
    fun e he => (decidePkg_iff cfg ver ok _ e (not_raise_of_raises_false cfg ver r t hraise e he)).1⟩

/-- **The install decision cannot fail** once versions are compared through `same_version` (`tolerantCmp`, the repair
of C20-F9): whatever strings are recorded, installed or pinned – PEP 440 or not – `install_requirements` gets through
its decision loop (`phase1` is `blocked` or `go`, never `raised`), for every table and record. -/
theorem C20_decision_never_raises (cfg : Cfg) (ht : cfg.tolerantCmp = true) (ver : Ver V) (allow : Bool) (t : Table)
    (r : Rec) : phase1 cfg ver allow t r ≠ .raised := by
  unfold phase1
  split
  · simp
  · obtain ⟨st', hs⟩ := decideLoop_isSome cfg ver (decidePkg_ne_raise cfg ver ht) t { recd := r, toInstall := [] }
    simp [hs]

/-- … and that is the code today: whatever is recorded, installed or pinned, `install_requirements` never raises out
of its decision loop (the full statement finding C20-F9 blocked) -/
theorem C20_never_raises (ver : Ver V) (allow : Bool) (t : Table) (r : Rec) : phase1 current ver allow t r ≠ .raised :=
  C20_decision_never_raises current rfl ver allow t r

/-- **Idempotence.**  If a run reached the installer stage with `ti`, the installer did its job (`InstallOk`), and
nothing else touches the site, then the next run over the same files installs nothing and leaves the record as it
is – provided the record the first run started from holds no sentinel value (`hnu`) and no installed version reads as
the sentinel string (`hs`). -/
theorem C20_idempotent (cfg : Cfg) (ver : Ver V) (site site' : Str → Option Str) (ls : List (Nat × Str))
    (allow : Bool) (r r1 : Rec) (ti : List Entry) (hk : (r.map (·.1)).Nodup) (hnu : ∀ kv ∈ r, kv.2 ≠ UNP)
    (h : phase1 cfg ver allow (mergeAll cfg ver site ls) r = .go r1 ti)
    (hio : InstallOk ver site site' ti) (hs : ∀ n, site' n ≠ some UNP) :
    phase1 cfg ver allow (mergeAll cfg ver site' ls) (phase2 site' r1 ti) = .go (phase2 site' r1 ti) [] ∧
    phase2 site' (phase2 site' r1 ti) [] = phase2 site' r1 ti := by
  rw [mergeAll_refresh cfg ver site site' ls]
  exact second_run cfg ver site site' _ (tableOk_mergeAll cfg ver site ls) r hk hnu allow r1 ti h hio hs

/-! ### regression witnesses: the earlier configurations (`Cfg.preFix`, `Cfg.preBomFix`, `Cfg.round3`) really behave
differently (their parameters are not vacuous; fixed findings C20-F1…F4, F8, F9).  The real pre-fix code is replayed against
the `Cfg.preFix` ones by `VERIF_REPO=<worktree of f2eddcb> ./check C20`. -/

/-- (fixed C20-F1) a malformed first pin was never validated and blocked the valid one; today both orders give 1.0 -/
theorem C20_regress_invalid_pin_first :
    (versionOf (mergeAll Cfg.preFix numVer (fun _ => none) [(0, "p==abc".toList), (0, "p==1.0".toList)]) "p".toList
      = some "abc".toList ∧
     versionOf (mergeAll Cfg.preFix numVer (fun _ => none) [(0, "p==1.0".toList), (0, "p==abc".toList)]) "p".toList
      = some "1.0".toList) ∧
    (versionOf (mergeAll current numVer (fun _ => none) [(0, "p==abc".toList), (0, "p==1.0".toList)]) "p".toList
      = some "1.0".toList ∧
     versionOf (mergeAll current numVer (fun _ => none) [(0, "p==1.0".toList), (0, "p==abc".toList)]) "p".toList
      = some "1.0".toList) := by
  -- `decide` would decode every `"…".toList` it meets, byte by byte.  Each literal of the statement unifies with
  -- `String.ofList _`, so rewriting with `String.toList_ofList` until none is left replaces it by its character list
  -- for nothing; the literals inside the model go the same way (`Lemmas`, "evaluating concrete runs").
  rw [current_eq, ← numVer_memo]; repeat rw [String.toList_ofList]
  delta mergeAll processLine merge1; simp only [branch_eq_with, newVersion_eq, UNP_eq]
  decide

/-- by `C20_regress_invalid_pin_first` the full-strength statement was FALSE for the pre-fix code: `C20_order_full`
cannot be proved for `Cfg.preFix`, the hypothesis of `C20_order_partial` is needed there -/
theorem C20_regress_order_full_false :
    ¬ (∀ (ls ls' : List (Nat × Str)), ls.Perm ls' → ∀ p,
        VEquiv numVer (versionOf (mergeAll Cfg.preFix numVer (fun _ => none) ls) p)
                      (versionOf (mergeAll Cfg.preFix numVer (fun _ => none) ls') p)) :=
  not_order_full _ _ _ _ _ _ _ _ C20_regress_invalid_pin_first.1.1 C20_regress_invalid_pin_first.1.2 (by decide) (by decide)

/-- (fixed C20-F2) an empty pin was falsy when recorded first, but replaced an unpinned entry when it came second;
today it is ignored in both orders -/
theorem C20_regress_empty_pin_vs_unpinned :
    (versionOf (mergeAll Cfg.preFix numVer (fun _ => none) [(0, "p==".toList), (0, "p".toList)]) "p".toList = some UNP ∧
     versionOf (mergeAll Cfg.preFix numVer (fun _ => none) [(0, "p".toList), (0, "p==".toList)]) "p".toList = some []) ∧
    (versionOf (mergeAll current numVer (fun _ => none) [(0, "p==".toList), (0, "p".toList)]) "p".toList = some UNP ∧
     versionOf (mergeAll current numVer (fun _ => none) [(0, "p".toList), (0, "p==".toList)]) "p".toList = some UNP) := by
  rw [current_eq, ← numVer_memo]; repeat rw [String.toList_ofList]
  delta mergeAll processLine merge1; simp only [branch_eq_with, newVersion_eq, UNP_eq]
  decide

/-- (fixed C20-F3) `p~=1.0` / `p!=1.0` became unpinned packages of that literal name; today the lines are ignored
(and a pin with a version epoch, which contains a lone `!`, is still a pin) -/
theorem C20_regress_specifier_kept_as_name :
    ((mergeAll Cfg.preFix numVer (fun _ => none) [(0, "p~=1.0".toList), (0, "p!=1.0".toList), (0, "p==2.0".toList)]).map
        (fun e => (e.name, e.version))
      = [("p~=1.0".toList, UNP), ("p!=1.0".toList, UNP), ("p".toList, "2.0".toList)]) ∧
    ((mergeAll current numVer (fun _ => none) [(0, "p~=1.0".toList), (0, "p!=1.0".toList), (0, "p==2.0".toList)]).map
        (fun e => (e.name, e.version))
      = [("p".toList, "2.0".toList)]) ∧
    versionOf (mergeAll current numVer (fun _ => none) [(0, "p==1!2.0".toList), (0, "p==3.0".toList)]) "p".toList
      = some "1!2.0".toList ∧
    versionOf (mergeAll current numVer (fun _ => none) [(0, "p==3.0".toList), (0, "p==1!2.0".toList)]) "p".toList
      = some "1!2.0".toList := by
  rw [current_eq, ← numVer_memo]; repeat rw [String.toList_ofList]
  delta mergeAll processLine merge1; simp only [branch_eq_with, newVersion_eq, UNP_eq]
  decide

/-- (fixed C20-F4) a pin to the sentinel string counted as an unpinned requirement; today the line is ignored -/
theorem C20_regress_sentinel_pin :
    versionOf (mergeAll Cfg.preFix numVer (fun _ => none) [(0, "p==_unpinned_version".toList)]) "p".toList = some UNP ∧
    versionOf (mergeAll current numVer (fun _ => none) [(0, "p==_unpinned_version".toList)]) "p".toList = none := by
  rw [current_eq, ← numVer_memo]; repeat rw [String.toList_ofList]
  delta mergeAll processLine merge1; simp only [branch_eq_with, newVersion_eq, UNP_eq]
  decide

/-- (fixed C20-F8) read with plain `utf-8` (`Cfg.preBomFix`) the byte-order mark of the file stayed in the first line
and became part of the package name; today (`utf-8-sig`) the requirement is `p==1.0` -/
theorem C20_regress_bom_first_line :
    (mergeAll Cfg.preBomFix numVer (fun _ => none) (fileLines Cfg.preBomFix ⟨0, [], [BOM :: "p==1.0".toList]⟩)).map
        (fun e => (e.name, e.version)) = [(BOM :: "p".toList, "1.0".toList)] ∧
    (mergeAll current numVer (fun _ => none) (fileLines current ⟨0, [], [BOM :: "p==1.0".toList]⟩)).map
        (fun e => (e.name, e.version)) = [("p".toList, "1.0".toList)] := by
  rw [current_eq, ← numVer_memo]; repeat rw [String.toList_ofList]
  decide

/-- (fixed C20-F9) an installed / recorded version string that is not PEP 440 made the install decision raise
(`InvalidVersion` escaped `install_requirements`: with `Version(a) != Version(b)` – `Cfg.round3` – `decidePkg` has no
branch that survives it); today (`same_version`) the package pyscript installed as `2004d` is simply updated to the pin -/
theorem C20_regress_legacy_installed_version :
    (runOnce Cfg.round3 numVer { site := [("p".toList, "2004d".toList)], index := [] } true [("p".toList, "2004d".toList)]
      [(0, "p==1.0".toList)]).2.exc = some "InvalidVersion" ∧
    (runOnce current numVer { site := [("p".toList, "2004d".toList)], index := [] } true [("p".toList, "2004d".toList)]
      [(0, "p==1.0".toList)]).2.args = some ["p==1.0".toList] ∧
    (runOnce current numVer { site := [("p".toList, "2004d".toList)], index := [] } true [("p".toList, "2004d".toList)]
      [(0, "p==1.0".toList)]).2.rec' = [("p".toList, "1.0".toList)] ∧
    -- installed by somebody else in a version that is not PEP 440, recorded by pyscript as 1.0: forgotten, not touched
    (runOnce current numVer { site := [("p".toList, "2004d".toList)], index := [] } true [("p".toList, "1.0".toList)]
      [(0, "p==2.0".toList)]).2.args = none ∧
    (runOnce current numVer { site := [("p".toList, "2004d".toList)], index := [] } true [("p".toList, "1.0".toList)]
      [(0, "p==2.0".toList)]).2.rec' = [] := by
  rw [current_eq, ← numVer_memo]; repeat rw [String.toList_ofList]
  decide

/-! ### open findings: the model reproduces them (witnesses replayed on the real code by the harness) -/

/-- (open C20-F7) package names are compared as raw text: two spellings of one package (same `normName`, which is how
pip and `importlib.metadata` identify it) are two rows -/
theorem C20_cex_name_variants :
    (mergeAll current numVer (fun _ => none) [(0, "My_Pkg==1.0".toList), (0, "my-pkg==2.0".toList)]).map
        (fun e => (e.name, e.version)) = [("My_Pkg".toList, "1.0".toList), ("my-pkg".toList, "2.0".toList)] ∧
    normName "My_Pkg".toList = normName "my-pkg".toList := by
  rw [current_eq, ← numVer_memo]; repeat rw [String.toList_ofList]
  decide

/-- (open C20-F6) a line that is not `name[==version]` is kept as a package name: `p[extra]==1.0` counts as not
installed, goes to the installer, and the host's `p` 2.0 (which pyscript never recorded) is replaced by 1.0 -/
theorem C20_cex_extras_override_host :
    (runOnce current numVer { site := [("p".toList, "2.0".toList)], index := [] } true [] [(0, "p[extra]==1.0".toList)]).2.args
      = some ["p[extra]==1.0".toList] ∧
    (runOnce current numVer { site := [("p".toList, "2.0".toList)], index := [] } true [] [(0, "p[extra]==1.0".toList)]).1.site
      = [("p".toList, "1.0".toList)] := by
  rw [current_eq, ← numVer_memo]; repeat rw [String.toList_ofList]
  decide

/-! ## non-vacuity: the hypotheses above are satisfiable by non-trivial inputs -/

example : VerOk numVer := numVer_ok

/-- a well-formed arrangement with pins, an unpinned line, a comment and a range line; `1.10` wins over `1.9` -/
example :
    (∀ l ∈ [(0, "p==1.9".toList), (1, "p".toList), (0, "p==1.10 # c".toList), (1, "p>=3".toList), (0, "q==1.0.0".toList)],
        meaning current numVer l.2 = specLine numVer l.2) ∧
    versionOf (mergeAll current numVer (fun _ => none)
      [(0, "p==1.9".toList), (1, "p".toList), (0, "p==1.10 # c".toList), (1, "p>=3".toList), (0, "q==1.0.0".toList)])
      "p".toList = some "1.10".toList := by
  rw [current_eq, ← numVer_memo]; repeat rw [String.toList_ofList]
  delta mergeAll processLine merge1; simp only [branch_eq_with, newVersion_eq, UNP_eq]
  decide

/-- a run that reaches the installer: `p` recorded by pyscript at the installed 1.0 and pinned to 2.0 is updated,
`q` installed by something else is left alone, `s` is new -/
example :
    phase1 current numVer true
      (mergeAll current numVer (rget [("p".toList, "1.0".toList), ("q".toList, "1.0".toList)])
        [(0, "p==2.0".toList), (0, "q==2.0".toList), (0, "s".toList)])
      [("p".toList, "1.0.0".toList)]
    = .go [("p".toList, "1.0.0".toList)]
        [⟨"p".toList, "2.0".toList, [0], some "1.0".toList⟩, ⟨"s".toList, UNP, [0], none⟩] := by
  rw [current_eq, ← numVer_memo]; repeat rw [String.toList_ofList]
  decide

end PsModel.C20
