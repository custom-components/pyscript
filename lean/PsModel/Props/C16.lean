import PsModel.Lemmas.C16
/-!
# C16 – property theorems: state variables read and write Home Assistant state faithfully

`Model/C16.lean` mirrors `state.py` and the dotted-name routing of `eval.py`; `Spec/C16.lean` is the dictionary
the property statement describes (functions `Ent → Option (value, attrs)`).  The theorems say that every entry
point commutes with the abstraction `absStore` for **all** stores, arguments and operation sequences – on the
fragment `Conf fx`, where `fx : Fixes` are the repairs the code contains (`Fixes.current` is read off the source on
every run, `Fixes.preFix` is the code before the `fix:` commits).  With all repairs in, only finding C16-F2 is left
outside the fragment (`C16_assign_stateval_cex`); the `_regress` theorems keep the old counterexamples for `preFix`.
-/
namespace PsModel.C16
open PsModel.Gen

/-- the fields `StateVal.__new__` writes and the code's table `STATE_VIRTUAL_ATTRS` are both exactly the four virtual
fields the property names (`VIRTUAL` is written out in the spec, the other two are extracted from the code) -/
theorem C16_virtual_tables (a : String) :
    (a ∈ STATEVAL_NEW_FIELDS ↔ a ∈ VIRTUAL) ∧ (a ∈ STATE_VIRTUAL_ATTRS ↔ a ∈ VIRTUAL) :=
  ⟨virtual_tables a, virtual_attrs_table a⟩

/-- **`state.get("DOMAIN.name")`** (what reading `DOMAIN.name` comes to when nothing shadows it, `C16_priority`):
`NameError` for a missing entity; otherwise a snapshot whose string is the current value and which shows every attribute
plus the virtual fields (virtual names win). -/
theorem C16_read (env : Env) (st : Store) (d n : String) :
    (aget (d, n) st = none → stateGet env st [d, n] = .exc "NameError") ∧
    (∀ r, aget (d, n) st = some r →
      ∃ s, stateGet env st [d, n] = .sv s ∧ s.value = r.value ∧
        ∀ a, aget a s.dict = if a ∈ VIRTUAL then some (virtVal (d, n) a) else aget a r.attrs) := by
  refine ⟨fun h => by simp [stateGet, h], fun r h => ⟨mkSnap (d, n) r, by simp [stateGet, h], rfl, ?_⟩⟩
  intro a
  have := mkSnap_view (d, n) r a
  simpa [viewOf, absRec, absAttrs, ofList] using this

/-- **Errors of attribute reads** (`state.get("DOMAIN.name.attr")`): missing entity ⇒ `NameError`; an attribute that is
neither stored, virtual, a method of `StateVal` / `str` (`methodAttr`) nor an entity service ⇒ `AttributeError`; stored
attributes and virtual fields are returned. -/
theorem C16_get_errors (env : Env) (st : Store) (d n a : String) :
    (aget (d, n) st = none → stateGet env st [d, n, a] = .exc "NameError") ∧
    (∀ r, aget (d, n) st = some r → env.svcMethod d a = false →
      (a ∈ VIRTUAL → stateGet env st [d, n, a] = .attr (virtVal (d, n) a)) ∧
      (a ∉ VIRTUAL → ∀ v, aget a r.attrs = some v → stateGet env st [d, n, a] = .attr v) ∧
      (a ∉ VIRTUAL → aget a r.attrs = none → methodAttr a = false →
        stateGet env st [d, n, a] = .exc "AttributeError")) := by
  refine ⟨fun h => by simp [stateGet, h], fun r h hs => ?_⟩
  have hv := mkSnap_view (d, n) r a
  simp only [viewOf, absRec, absAttrs, ofList] at hv
  refine ⟨fun hm => ?_, fun hm v hv' => ?_, fun hm hn hc => ?_⟩
  · simp [stateGet, h, hs, snapGetattr, hv, hm]
  · simp [stateGet, h, hs, snapGetattr, hv, hm, hv']
  · simp only [stateGet, h, hs, snapGetattr, hv, hm, hn, if_false, Bool.false_eq_true]
    simp only [hc, Bool.false_eq_true, if_false]

/-- **Assigning `DOMAIN.name = v`** (v an ordinary non-`None` value, the head not shadowed by a Python variable):
the value becomes `str(v)`, the attributes are kept, nothing else changes. -/
theorem C16_assign_keeps_attrs (fx : Fixes) (env : Env) (hs : SimpleEnv env) (hok : EnvOK env) (st : Store) (d n : String) (v : Val)
    (hh : pyVarSrc env d = none) :
    absStore (storeDotted fx env st [d, n] (.plain v)).1
      = fupd (absStore st) (d, n) (some ⟨v.str, attrsOf (absStore st) (d, n)⟩) ∧
    (storeDotted fx env st [d, n] (.plain v)).2 = .unit := by
  rw [storeDotted_two_plain hs hok fx st hh, setCore_abs]
  simp [setRule, argStr?, svAttrs, merge]

/-- **Assigning `DOMAIN.name = None`** (with the repair of `recurse_assign`): like any other assignment – the value
becomes `"None"`, the attributes are kept. -/
theorem C16_assign_none_sets_value (fx : Fixes) (hf : fx.assignNone = true) (env : Env) (hs : SimpleEnv env)
    (hok : EnvOK env) (st : Store) (d n : String) (hh : pyVarSrc env d = none) :
    absStore (storeDotted fx env st [d, n] .none).1
      = fupd (absStore st) (d, n) (some ⟨"None", attrsOf (absStore st) (d, n)⟩) ∧
    (storeDotted fx env st [d, n] .none).2 = .unit := by
  rw [storeDotted_two_none hs hok fx st hh hf, setCore_abs]
  simp [setRule, argStr?, svAttrs, merge, noneStr]

/-- **`state.setattr`** (to which `DOMAIN.name.attr = v` is routed when the head is not a Python variable,
`storeDotted_three`) – for **every** attribute name once `State.setattr` builds the attribute dictionary itself
(`fx.setattrDict`); before that repair only for names that are not parameters of `State.set`: `NameError` and no change
when the entity is missing; otherwise exactly that attribute changes – value, other attributes and other entities are
untouched. -/
theorem C16_attr_assign_only_that (fx : Fixes) (env : Env) (st : Store) (d n a : String) (v : Val)
    (hr : fx.setattrDict = true ∨ reserved a = false) :
    (aget (d, n) st = none → stateSetattr fx env st [d, n, a] v = (st, .exc "NameError")) ∧
    (∀ r, aget (d, n) st = some r →
      (stateSetattr fx env st [d, n, a] v).2 = .unit ∧
      ∀ e, aget e (stateSetattr fx env st [d, n, a] v).1 =
        if e = (d, n) then some ⟨r.value, aset a v r.attrs⟩ else aget e st) := by
  refine ⟨fun h => by simp [stateSetattr, h], fun r h => ?_⟩
  rw [stateSetattr_eq a v h hr]
  exact ⟨rfl, fun e => aget_aset (d, n) e _ st⟩

/-- **`state.set(name, v, new_attributes=d)`** replaces all attributes (then merges the keywords). -/
theorem C16_set_new_attrs_replace (st : Store) (d n : String) (v : Val) (na kw : Attrs) :
    absStore (stateSet st [d, n] (.plain v) (some na) kw).1
      = fupd (absStore st) (d, n) (some ⟨v.str, merge kw (ofList na)⟩) := by
  simp only [stateSet]
  rw [setCore_abs]
  simp [setRule, argStr?, svAttrs, absAttrs]

/-- **Keyword attributes are merged**: with `new_attributes` omitted the old attributes stay and each keyword is set. -/
theorem C16_set_kwargs_merge (st : Store) (d n : String) (v : Val) (kw : Attrs) :
    absStore (stateSet st [d, n] (.plain v) none kw).1
      = fupd (absStore st) (d, n) (some ⟨v.str, merge kw (attrsOf (absStore st) (d, n))⟩) := by
  simp only [stateSet]
  rw [setCore_abs]
  simp [setRule, argStr?, svAttrs]

/-- **An omitted value is kept** (for an existing entity), whatever is done to the attributes. -/
theorem C16_set_value_omitted_kept (st : Store) (d n : String) (r : Rec) (na : Option Attrs) (kw : Attrs)
    (h : aget (d, n) st = some r) :
    (aget (d, n) (stateSet st [d, n] .none na kw).1).map (·.value) = some r.value := by
  simp only [stateSet, setCore_none h, aget_aset_same, Option.map_some]

/-- what `State.set` does with a `StateVal` argument and no `new_attributes` (the mechanism behind finding F2):
the target gets the snapshot's string **and the snapshot's attributes** (virtual fields removed). -/
theorem C16_set_stateval (st : Store) (e : Ent) (s : Snap) (kw : Attrs) :
    absStore (setCore st e (.sv s) none kw)
      = fupd (absStore st) e (some ⟨s.value, merge kw (attrsOfView (absAttrs s.dict))⟩) := by
  rw [setCore_abs]
  simp [setRule, argStr?, svAttrs, abs_snapAttrs]

/-- **One step refines the dictionary rules** (`Conf` operations; all stores, all captured snapshots). -/
theorem C16_step_refines (fx : Fixes) (env : Env) (hs : SimpleEnv env) (hok : EnvOK env) (ms : MState) (op : Op)
    (hc : Conf fx env op = true) :
    absState (step fx env ms op).1 = (Spec.step env (absState ms) op).1 ∧
      absOut (step fx env ms op).2 = (Spec.step env (absState ms) op).2 := by
  cases op with
  | load parts =>
    have h := load_abs hs hok ms.store parts hc
    exact ⟨(capture_abs ms _).trans (congrArg _ h), h⟩
  | get parts =>
    have h := stateGet_abs env ms.store parts
    exact ⟨(capture_abs ms _).trans (congrArg _ h), h⟩
  | store parts v =>
    -- `Conf` lets no captured `StateVal` be assigned, and every other value resolves to itself
    cases v with
    | snap i => rcases parts with _ | ⟨d, _ | ⟨n, _ | ⟨a, _ | ⟨b, r⟩⟩⟩⟩ <;> cases hc
    | none => exact withStore_abs _ _ _ (store_abs hs hok ms parts .none .none hc rfl)
    | plain x => exact withStore_abs _ _ _ (store_abs hs hok ms parts (.plain x) (.plain x) hc rfl)
  | aug parts sfx => cases hc
  | delStmt parts => exact withStore_abs _ _ _ (delStmt_abs hs hok ms.store parts hc)
  | set parts v na kw =>
    simp only [step, Spec.step, refValue_abs]
    cases ha : resolveArg ms.snaps v with
    | none => exact ⟨rfl, rfl⟩
    | some a =>
      -- a `StateVal` value comes with `new_attributes` given: that is what `Conf` asks of `state.set`
      have hsv : (∀ s, a ≠ .sv s) ∨ na ≠ none := by
        cases na with
        | some _ => exact Or.inr nofun
        | none =>
          cases v with
          | snap i => cases hc
          | _ => cases ha; exact Or.inl (fun _ => Arg.noConfusion)
      exact withStore_abs _ _ _ (stateSet_abs ms.store parts a na kw hsv)
  | setattr parts v => exact withStore_abs _ _ _ (stateSetattr_abs ms.store parts v hc)
  | delete parts => exact withStore_abs _ _ _ (stateDelete_abs ms.store parts)
  | exist parts => exact ⟨rfl, congrArg SOut.bool (stateExist_abs env ms.store parts)⟩
  | getattr parts => exact ⟨rfl, stateGetattr_abs ms.store parts⟩
  | names dom => exact ⟨rfl, stateNames_abs ms.store dom⟩
  | getattrSnap i =>
    simp only [step, Spec.step, absState_snaps_getElem?]
    cases ms.snaps[i]? with
    | none => exact ⟨rfl, rfl⟩
    | some s => exact ⟨rfl, congrArg (fun a => SOut.attrs (some a)) (abs_snapAttrs s)⟩
  | peek i =>
    simp only [step, Spec.step, absState_snaps_getElem?]
    cases ms.snaps[i]? <;> exact ⟨rfl, rfl⟩
  | extSet e value attrs => exact ⟨congrArg (AState.mk · _) (absStore_aset e _ ms.store), rfl⟩
  | extRemove e => exact ⟨congrArg (AState.mk · _) (absStore_adel e ms.store), rfl⟩

/-- **Refinement over all operation sequences inside `Conf`** (read / assign / attribute-assign / `state.set` /
delete / exist / getattr / names, interleaved with external `async_set`/`async_remove`):
after every step the store denotes the spec's dictionary and the script saw the spec's value or exception class.
Partial: outside `Conf` are the recorded findings (`_cex` / `_regress` theorems below; a `StateVal` given to `state.set`
without `new_attributes` is one of them), `+=`, and the unmodelled shapes. -/
theorem C16_refinement_partial (fx : Fixes) (env : Env) (hs : SimpleEnv env) (hok : EnvOK env) (ops : List Op)
    (hc : ∀ op ∈ ops, Conf fx env op = true) (ms : MState) :
    absState (run fx env ms ops).1 = (Spec.run env (absState ms) ops).1 ∧
      (run fx env ms ops).2.map absOut = (Spec.run env (absState ms) ops).2 := by
  induction ops generalizing ms with
  | nil => simp [run, Spec.run]
  | cons op ops ih =>
    obtain ⟨h1, h2⟩ := C16_step_refines fx env hs hok ms op (hc op (by simp))
    obtain ⟨i1, i2⟩ := ih (fun o ho => hc o (by simp [ho])) (step fx env ms op).1
    simp only [run, Spec.run, List.map_cons]
    rw [← h1, ← h2]
    exact ⟨i1, by rw [i2]⟩

/-- **delete / exist / names / getattr / get agree with the state machine after every operation sequence**: whatever
conforming history produced the store, each observer returns what the dictionary spec returns on the spec's store. -/
theorem C16_observers_agree (fx : Fixes) (env : Env) (hs : SimpleEnv env) (hok : EnvOK env) (ops : List Op)
    (hc : ∀ op ∈ ops, Conf fx env op = true) (ms : MState) (parts : List String) (dom : Option String) :
    let m := (run fx env ms ops).1
    let s := (Spec.run env (absState ms) ops).1
    stateExist env m.store parts = Spec.exist env s.store parts ∧
    absOut (stateGetattr m.store parts) = Spec.getattr s.store parts ∧
    absOut (.names (stateNames m.store dom)) = .names (Spec.names s.store dom) ∧
    absOut (stateGet env m.store parts) = Spec.get env s.store parts ∧
    (absStore (stateDelete m.store parts).1, absOut (stateDelete m.store parts).2) = Spec.delete s.store parts := by
  intro m s
  have h : absState m = s := (C16_refinement_partial fx env hs hok ops hc ms).1
  have hst : s.store = absStore m.store := by rw [← h]; rfl
  rw [hst]
  exact ⟨stateExist_abs env _ _, stateGetattr_abs _ _, stateNames_abs _ _, stateGet_abs env _ _, stateDelete_abs _ _⟩

/-- `state.names` never lists an entity twice: entity ids stay distinct along every operation sequence. -/
theorem C16_names_nodup (fx : Fixes) (env : Env) (ops : List Op) (ms : MState) (h : (ms.store.map (·.1)).Nodup)
    (dom : Option String) : (stateNames (run fx env ms ops).1.store dom).Nodup := by
  refine List.Nodup.sublist List.filter_sublist ?_
  exact run_store_ind (P := fun st => (st.map (·.1)).Nodup) (fun _ e r => keys_nodup_aset e r _)
    (fun _ e => keys_nodup_adel e _) fx env ops ms h

/-- **A captured snapshot never changes afterwards**: whatever operations follow (by the script or from outside),
looking at snapshot `i` again shows exactly what was captured. -/
theorem C16_snapshot_immutable (fx : Fixes) (env : Env) (ops : List Op) (ms : MState) (i : Nat) (s : Snap)
    (h : ms.snaps[i]? = some s) :
    (run fx env ms ops).1.snaps[i]? = some s ∧ (step fx env (run fx env ms ops).1 (.peek i)).2 = .sv s := by
  obtain ⟨t, ht⟩ := run_snaps fx env ops ms
  have hi : (run fx env ms ops).1.snaps[i]? = some s := by
    rw [← ht, List.getElem?_append_left (List.getElem?_eq_some_iff.mp h).1]; exact h
  exact ⟨hi, by simp only [step, hi]⟩

/-- **Resolution priority**: a Python variable named like the head (local > per-context function > global > builtin,
the order of `Gen.NAME_LOOKUP_ORDER`) wins over services and states, both for reading and for
assigning – and, with the repair of `ast_delete`, for `del` –; an existing function/service name `d.n` wins over the
state variable `d.n`; otherwise the state machine answers. -/
theorem C16_priority (fx : Fixes) (env : Env) (hs : SimpleEnv env) (hok : EnvOK env) (st : Store) (d n : String) :
    (∀ x, getattrOut (astNameLoad env st [d]) x =
        match pyVarSrc env d with | some src => .py src | none => .exc "NameError") ∧
    (∀ src, pyVarSrc env d = some src →
        loadDotted env st [d, n] = .py src ∧ (∀ a, loadDotted env st [d, n, a] = .py src) ∧
        (∀ v, storeDotted fx env st [d, n] v = (st, .py "setattr")) ∧
        (∀ a v, storeDotted fx env st [d, n, a] v = (st, .py "setattr")) ∧
        (fx.delPyAttr = true → ∀ rest, delDotted fx env st (d :: n :: rest) = (st, .py "delattr"))) ∧
    (pyVarSrc env d = none → callableName env d n = true → loadDotted env st [d, n] = .callable) ∧
    (pyVarSrc env d = none → callableName env d n = false →
        loadDotted env st [d, n] = stateGet env st [d, n] ∧
        ∀ a, loadDotted env st [d, n, a] = stateGet env st [d, n, a]) := by
  refine ⟨fun x => head_getattr hs hok st d x, fun src h => ?_, fun h hc => ?_, fun h hc => ⟨?_, fun a => ?_⟩⟩
  · refine ⟨?_, fun a => ?_, fun v => storeDotted_py hs hok fx st h n [] v,
      fun a v => storeDotted_py hs hok fx st h n [a] v, fun hf rest => delDotted_py hs hok fx st h hf n rest⟩
    · rw [loadDotted_two hs hok]; simp [h]
    · rw [loadDotted_three hs hok st d n a (Or.inl (by rw [h]; rfl))]; simp [h]
  · rw [loadDotted_two hs hok]; simp [h, hc]
  · rw [loadDotted_two hs hok]; simp [h, hc]
  · rw [loadDotted_three hs hok st d n a (Or.inr hc)]; simp [h]

/-- **The working tree contains all three repairs** (`Fixes.current` is extracted from `recurse_assign`, `State.setattr`
and `ast_delete` on every run; undoing one of the repairs in the source makes this theorem fail). -/
theorem C16_fixes_current : Fixes.current = ⟨true, true, true⟩ := by decide

/-- with all repairs in, the fragment is `ConfNow`: everything except finding F2, `+=` and the unmodelled shapes -/
theorem C16_conf_current (fx : Fixes) (hf : fx = ⟨true, true, true⟩) (env : Env) (op : Op) :
    Conf fx env op = ConfNow env op := by
  subst hf
  -- once the shape of the name and of the value is known, every condition on `fx` reads `true || _`
  cases op with
  | store parts v => rcases parts with _ | ⟨d, _ | ⟨n, _ | ⟨a, _ | ⟨b, r⟩⟩⟩⟩ <;> cases v <;> rfl
  | delStmt parts => rcases parts with _ | ⟨d, _ | ⟨n, r⟩⟩ <;> rfl
  | setattr parts v => rcases parts with _ | ⟨d, _ | ⟨n, _ | ⟨a, _ | ⟨b, r⟩⟩⟩⟩ <;> rfl
  | _ => rfl

/-- **Refinement for the code as it is now**: every operation sequence inside `ConfNow` – clear of finding F2 (no
`StateVal` assigned, or given to `state.set` without `new_attributes`), of `+=` and of the unmodelled shapes – refines
the dictionary rules; `None` values, attributes named like `State.set` parameters and `del obj.attr` on Python
variables included. -/
theorem C16_refinement_current (env : Env) (hs : SimpleEnv env) (hok : EnvOK env) (ops : List Op)
    (hc : ∀ op ∈ ops, ConfNow env op = true) (ms : MState) :
    absState (run Fixes.current env ms ops).1 = (Spec.run env (absState ms) ops).1 ∧
      (run Fixes.current env ms ops).2.map absOut = (Spec.run env (absState ms) ops).2 :=
  C16_refinement_partial Fixes.current env hs hok ops
    (fun op ho => by rw [C16_conf_current _ C16_fixes_current]; exact hc op ho) ms

def cexStore : Store := [(("pyscript", "x"), ⟨"5", [("a", ⟨"1", "1"⟩)]⟩), (("pyscript", "y"), ⟨"7", [("b", ⟨"2", "2"⟩)]⟩)]

/-- **F2 (open)** `pyscript.y = pyscript.x` (a StateVal): the rule keeps `y`'s attribute `b`; the code replaces the
attributes by the snapshot's (`b` is gone, `a` appears). -/
theorem C16_assign_stateval_cex :
    let ms1 := (step Fixes.current {} ⟨cexStore, []⟩ (.load ["pyscript", "x"])).1
    (aget ("pyscript", "y") (step Fixes.current {} ms1 (.store ["pyscript", "y"] (.snap 0))).1.store).map (·.attrs)
      = some [("a", ⟨"1", "1"⟩)] ∧
    ((Spec.step {} (absState ms1) (.store ["pyscript", "y"] (.snap 0))).1.store ("pyscript", "y")).map
      (fun r => (r.value, r.attrs "a", r.attrs "b")) = some ("5", none, some ⟨"2", "2"⟩) := by
  intro ms1
  -- no head is a Python variable in the empty environment: the read is `State.get`, the assignment `State.set`
  have h1 : ms1 = ⟨cexStore, [mkSnap ("pyscript", "x") ⟨"5", [("a", ⟨"1", "1"⟩)]⟩]⟩ := by
    simp only [ms1, step, loadDotted_two simpleEnv_empty envOK_empty]; rfl
  rw [h1]
  constructor
  · simp only [step, resolveArg, storeDotted_two simpleEnv_empty envOK_empty _ _ (d := "pyscript") rfl]
    decide
  · rfl

/-- **F1 (design #27) – regression witness**: before the repair `pyscript.x = None` on an existing entity kept `"5"`
(the rule says `"None"`); with the repair the store holds `"None"`. -/
theorem C16_assign_none_regress :
    (aget ("pyscript", "x") (step Fixes.preFix {} ⟨cexStore, []⟩ (.store ["pyscript", "x"] .none)).1.store).map (·.value)
      = some "5" ∧
    (aget ("pyscript", "x") (step Fixes.current {} ⟨cexStore, []⟩ (.store ["pyscript", "x"] .none)).1.store).map (·.value)
      = some "None" ∧
    ((Spec.step {} (absState ⟨cexStore, []⟩) (.store ["pyscript", "x"] .none)).1.store ("pyscript", "x")).map (·.value)
      = some "None" := by
  simp only [step, resolveArg, storeDotted_two simpleEnv_empty envOK_empty _ _ (d := "pyscript") rfl]
  exact ⟨by decide, by decide, rfl⟩

/-- **F3 – regression witness**: before the repair `pyscript.x.value = 9` set the *state* to `"9"` and created no
attribute; now the attribute `value` is set and the state stays `"5"`, as the rule says. -/
theorem C16_attr_reserved_regress :
    aget ("pyscript", "x") (step Fixes.preFix {} ⟨cexStore, []⟩ (.store ["pyscript", "x", "value"] (.plain ⟨"9", "9"⟩))).1.store
      = some ⟨"9", [("a", ⟨"1", "1"⟩)]⟩ ∧
    aget ("pyscript", "x") (step Fixes.current {} ⟨cexStore, []⟩ (.store ["pyscript", "x", "value"] (.plain ⟨"9", "9"⟩))).1.store
      = some ⟨"5", [("a", ⟨"1", "1"⟩), ("value", ⟨"9", "9"⟩)]⟩ ∧
    ((Spec.step {} (absState ⟨cexStore, []⟩) (.store ["pyscript", "x", "value"] (.plain ⟨"9", "9"⟩))).1.store
      ("pyscript", "x")).map (fun r => (r.value, r.attrs "value")) = some ("5", some ⟨"9", "9"⟩) := by
  simp only [step, resolveArg, storeDotted_three simpleEnv_empty envOK_empty _ _ (d := "pyscript") rfl]
  exact ⟨by decide, by decide, rfl⟩

/-- **F4 – regression witness**: before the repair `del obj.attr` on a local Python variable went to `State.delete` and
raised `NameError`; now it is Python's `delattr`. -/
theorem C16_del_pyvar_regress :
    (step Fixes.preFix { sym := [["obj"]] } ⟨cexStore, []⟩ (.delStmt ["obj", "attr"])).2 = .exc "NameError" ∧
    (step Fixes.current { sym := [["obj"]] } ⟨cexStore, []⟩ (.delStmt ["obj", "attr"])).2 = .py "delattr" ∧
    (match (Spec.step { sym := [["obj"]] } (absState ⟨cexStore, []⟩) (.delStmt ["obj", "attr"])).2 with
     | .py _ => True
     | _ => False) := by
  exact ⟨by decide, by decide, trivial⟩

/-- an environment satisfying the hypotheses, with a local, a global, a registered function and a service -/
def exEnv : Env :=
  { sym := [["sensor"]], globalSym := [["light"], ["sensor"]], functions := [["state", "get"], ["task", "sleep"]],
    services := [("pyscript", "step")], svcMethods := [("pyscript", "svcm")] }

example : SimpleEnv exEnv ∧ EnvOK exEnv := by
  refine ⟨⟨?_, ?_⟩, ?_, ?_⟩
  · intro id h; simp [pyTables, exEnv] at h; rcases h with h | h | h <;> simp [h]
  · intro id h; simp [exEnv] at h; rcases h with h | h <;> simp [h]
  · intro id h; simp [exEnv] at h
  · intro id h; simp [exEnv] at h

/-- a sequence inside `ConfNow` touching every entry point – `None` assignment, an attribute named `value` and a `del`
on a Python variable included – run by the model of the current code -/
example :
    let ops : List Op :=
      [.extSet ("pyscript", "x") "5" [("a", ⟨"1", "1"⟩)], .load ["pyscript", "x"], .store ["pyscript", "y"] (.plain ⟨"7", "7"⟩),
       .store ["pyscript", "y", "b"] (.plain ⟨"2", "2"⟩), .set ["pyscript", "y"] .none (some []) [("c", ⟨"3", "3"⟩)],
       .set ["pyscript", "z"] (.snap 0) (some []) [], .delStmt ["pyscript", "x", "a"], .delete ["pyscript", "x"],
       .exist ["pyscript", "y", "c"], .getattr ["pyscript", "y"], .names (some "pyscript"), .peek 0,
       .load ["sensor", "x"], .load ["pyscript", "step"], .extRemove ("pyscript", "z"),
       .store ["pyscript", "y"] .none, .store ["pyscript", "y", "value"] (.plain ⟨"9", "9"⟩), .delStmt ["sensor", "x"]]
    (∀ op ∈ ops, ConfNow exEnv op = true) ∧
    (run Fixes.current exEnv ⟨[], []⟩ ops).1.store
      = [(("pyscript", "y"), ⟨"None", [("c", ⟨"3", "3"⟩), ("value", ⟨"9", "9"⟩)]⟩)] := by
  decide

end PsModel.C16
