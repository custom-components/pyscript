import PsModel.Lemmas.C09Chan
/-!
# C09 – property theorems (triggers live exactly as long as their function and leave nothing behind)

`State.notify_del` is modelled with a deviation flag: `delContinuesNow = true` is TODAY's code (since the `fix:` commit
a7dbc5e of /repo the loop `continue`s), `delContinuesPreFix = false` is the loop before that commit (`return` at the
first name whose entity no longer lists the queue – finding C09-F1 = DESIGN §6 #18, now fixed).  The headline theorems
speak about today's code at full strength; the `C09_regress_…` theorems record what held and what failed for the
pre-fix code, so that a re-introduction of the `return` is recognised for what it is.
-/
namespace PsModel.C09
open PsModel.C09.Spec

/-- **Today's code, all iteration orders.**  Subscribing a fresh queue to any set of names and unsubscribing it again –
the names iterated in *any* order, possibly a different one, any number of names per entity – leaves every entity's
subscriber set as it was. -/
theorem C09_start_stop_id (names names' : List Var) (hp : names'.Perm names) (q : Q) (t : StateTbl)
    (hfresh : ∀ e, q ∉ subsOf t e) (e : Ent) (q' : Q) :
    q' ∈ subsOf (notifyDel delContinuesNow q names' (notifyAdd names q t)) e ↔ q' ∈ subsOf t e :=
  mem_notifyDel_notifyAdd true names names' hp (.inl rfl) q t hfresh e q'

/-- **Pre-fix code, the fragment on which it was clean.**  With the old `return` the same is proved when no two watched
names belong to the same entity (no `a` together with `a.old` or `a.attr`); `C09_regress_two_names_one_entity` shows it
failing otherwise. -/
theorem C09_regress_start_stop_prefix_fragment (names names' : List Var) (hp : names'.Perm names)
    (hnd : (entsOf names').Nodup) (q : Q) (t : StateTbl) (hfresh : ∀ e, q ∉ subsOf t e) (e : Ent) (q' : Q) :
    q' ∈ subsOf (notifyDel delContinuesPreFix q names' (notifyAdd names q t)) e ↔ q' ∈ subsOf t e :=
  mem_notifyDel_notifyAdd false names names' hp (.inr hnd) q t hfresh e q'

/-- **Regression witness (C09-F1, fixed by a7dbc5e).**  Watching `pyscript.a`, `pyscript.a.old` and `pyscript.b`:
the PRE-FIX loop, iterating in this order, left the queue subscribed to `pyscript.b` (not so in the order
`b, a, a.old` – the defect depended on the iteration order of a Python set); TODAY's loop, in the first order, takes it off
`pyscript.b` (every order and every entity: `C09_start_stop_id`). -/
theorem C09_regress_two_names_one_entity :
    subsOf (notifyDel delContinuesPreFix (7, 0) [["pyscript", "a"], ["pyscript", "a", "old"], ["pyscript", "b"]]
      (notifyAdd [["pyscript", "a"], ["pyscript", "a", "old"], ["pyscript", "b"]] (7, 0) [])) ["pyscript", "b"] = [(7, 0)] ∧
    subsOf (notifyDel delContinuesPreFix (7, 0) [["pyscript", "b"], ["pyscript", "a"], ["pyscript", "a", "old"]]
      (notifyAdd [["pyscript", "a"], ["pyscript", "a", "old"], ["pyscript", "b"]] (7, 0) [])) ["pyscript", "b"] = [] ∧
    subsOf (notifyDel delContinuesNow (7, 0) [["pyscript", "a"], ["pyscript", "a", "old"], ["pyscript", "b"]]
      (notifyAdd [["pyscript", "a"], ["pyscript", "a", "old"], ["pyscript", "b"]] (7, 0) [])) ["pyscript", "b"] = [] := by
  decide

/-- **Listener count (legacy subsystem).**  After any sequence of `Event.notify_add` / `Event.notify_del` calls,
pyscript holds exactly one bus listener for an event type that has a subscriber and none otherwise, and the table
has an entry for a type exactly when it has a subscriber. -/
theorem C09_listener_count (ops : List EvOp) (ty : String) :
    busCount (evRun ops).bus ty = (if (evSubs (evRun ops) ty).isEmpty then 0 else 1) ∧
      (evHas (evRun ops) ty = true ↔ evSubs (evRun ops) ty ≠ []) :=
  ⟨evOK_count (evRun_ok ops) ty, evOK_has (evRun_ok ops) ty⟩

/-- in the new subsystem every started `@event_trigger` holds its own bus listener.  Only what one increment and one
decrement do to the counter, at the key and elsewhere; the count over a run is in `C09_channels_new`. -/
theorem C09_listener_count_new (b : List (String × Nat)) (ty ty' : String) :
    busCount (busInc b ty) ty' = (if ty' = ty then busCount b ty + 1 else busCount b ty') ∧
      busCount (busDec b ty) ty' = (if ty' = ty then busCount b ty - 1 else busCount b ty') :=
  ⟨busCount_inc b ty ty', busCount_dec b ty ty'⟩

/-- **Refinement, today's code, no side condition.**  After *any* sequence of define / redefine / `del` / rebind /
container put / drop / context unload / unload-all operations, in either subsystem, under the ASSUMPTION that an
unreferenced function object is finalised right after the operation (`sweep`):
the state subscription table is exactly the union of the subscriptions of the started generations (`Spec.Tables`),
the started generations are exactly the referenced ones (`Spec.Active`) – so no occurrence can reach a function
that is no longer referenced – and their identifiers are pairwise distinct. -/
theorem C09_refinement (sub : Sub) (ops : List Op) :
    (∀ e q, q ∈ subsOf (run delContinuesNow sub ops).st e ↔ Tables sub (run delContinuesNow sub ops).started e q) ∧
    (∀ g ∈ (run delContinuesNow sub ops).started, Active (run delContinuesNow sub ops) g.id) ∧
    (∀ i, Active (run delContinuesNow sub ops) i → ∃ g ∈ (run delContinuesNow sub ops).started, g.id = i) ∧
    ((run delContinuesNow sub ops).started.map (·.id)).Nodup := by
  have h := (run_now sub ops).1
  exact ⟨h.inv.tables, h.active, h.inv.live, h.inv.nodup⟩

/-- **Unload returns to the baseline (today's code, no side condition).**  Whatever happened before, after `unloadAll`
nothing is started and no entity has a subscriber left. -/
theorem C09_unload_baseline (sub : Sub) (ops : List Op) :
    (run delContinuesNow sub (ops ++ [.unloadAll])).started = [] ∧
      ∀ e, subsOf (run delContinuesNow sub (ops ++ [.unloadAll])).st e = [] :=
  run_unloadAll_baseline true sub ops (fun op _ => opGood_of_cont sub op)

/-- **Pre-fix code, the fragment on which refinement and unload-to-baseline held**: every defined function names each
entity once per queue (`OpGood false`). -/
theorem C09_regress_refinement_prefix_fragment (sub : Sub) (ops : List Op)
    (hgood : ∀ op ∈ ops, OpGood delContinuesPreFix sub op) :
    (∀ e q, q ∈ subsOf (run delContinuesPreFix sub ops).st e ↔ Tables sub (run delContinuesPreFix sub ops).started e q) ∧
    (∀ g ∈ (run delContinuesPreFix sub ops).started, Active (run delContinuesPreFix sub ops) g.id) ∧
    (∀ i, Active (run delContinuesPreFix sub ops) i → ∃ g ∈ (run delContinuesPreFix sub ops).started, g.id = i) ∧
    ((run delContinuesPreFix sub (ops ++ [.unloadAll])).started = [] ∧
      ∀ e, subsOf (run delContinuesPreFix sub (ops ++ [.unloadAll])).st e = []) := by
  have h := run_stepInv delContinuesPreFix sub ops hgood
  exact ⟨h.inv.tables, h.active, h.inv.live, run_unloadAll_baseline false sub ops hgood⟩

/-- **Regression witness at the level of operations (C09-F1, fixed).**  Define a function watching `a`, `a.old`, `b`
and delete it.  PRE-FIX: `pyscript.b` still lists its queue, in both subsystems, although no generation is started any
more (that conjunct for the legacy subsystem only).  TODAY: `pyscript.b` has no subscriber left, in both subsystems. -/
theorem C09_regress_refinement_prefix_leak :
    (run delContinuesPreFix .legacy [.define "file.t" "f" [[["pyscript", "a"], ["pyscript", "a", "old"], ["pyscript", "b"]]] [] [] [] [] false false,
        .del "file.t" "f"]).started = [] ∧
    subsOf (run delContinuesPreFix .legacy [.define "file.t" "f" [[["pyscript", "a"], ["pyscript", "a", "old"], ["pyscript", "b"]]] [] [] [] [] false false,
        .del "file.t" "f"]).st ["pyscript", "b"] = [(0, 0)] ∧
    subsOf (run delContinuesPreFix .new [.define "file.t" "f" [[["pyscript", "a"], ["pyscript", "a", "old"], ["pyscript", "b"]]] [] [] [] [] false false,
        .del "file.t" "f"]).st ["pyscript", "b"] = [(0, 0)] ∧
    subsOf (run delContinuesNow .legacy [.define "file.t" "f" [[["pyscript", "a"], ["pyscript", "a", "old"], ["pyscript", "b"]]] [] [] [] [] false false,
        .del "file.t" "f"]).st ["pyscript", "b"] = [] ∧
    subsOf (run delContinuesNow .new [.define "file.t" "f" [[["pyscript", "a"], ["pyscript", "a", "old"], ["pyscript", "b"]]] [] [] [] [] false false,
        .del "file.t" "f"]).st ["pyscript", "b"] = [] := by
  decide

/-- **Two contexts competing for one service name (witness, both subsystems).**  `file.t` claims `pyscript.shared`;
the claim of `file.u` is refused *without being counted* (`Function.service_register` checks the owner before it
increments `service_cnt`) and leaves an inert function; when the owner's function is deleted the count is 0 and the
name has no owner, so a new claim of `file.u` succeeds.  (A concrete run of the model; the universal statements
are `C09_service_bookkeeping`, `C09_refused_changes_nothing` and `C09_service_free_again`.  Seeded change C09_2, which
counts the refused claim, is reported by the correspondence check as `ran-inactive`.) -/
theorem C09_service_competition_witness (sub : Sub) :
    let w1 := run delContinuesNow sub [.define "file.t" "f0" [] [] [] [] ["pyscript.shared"] false false,
                                       .define "file.u" "f0" [] [] [] [] ["pyscript.shared"] false false]
    let w2 := step delContinuesNow sub w1 (.del "file.t" "f0")
    let w3 := step delContinuesNow sub w2 (.define "file.u" "f0" [] [] [] [] ["pyscript.shared"] false false)
    (svcCount w1.svc "pyscript.shared" = 1 ∧ ownerOf w1.owner "pyscript.shared" = some "file.t" ∧
      (w1.started.map (·.services)) = [["pyscript.shared"], []]) ∧
    (svcCount w2.svc "pyscript.shared" = 0 ∧ ownerOf w2.owner "pyscript.shared" = none) ∧
    (svcCount w3.svc "pyscript.shared" = 1 ∧ ownerOf w3.owner "pyscript.shared" = some "file.u") := by
  cases sub <;> decide

/-- **Legacy subsystem: the three notify tables and their Home Assistant side, after ANY operation sequence.**
`Event.notify`, `Mqtt.notify` and `Webhook.notify` hold, for every key (event type / topic / webhook id), exactly the
queues of the started generations whose decorators name the key (`Spec.ChanTables`; started = referenced by
`C09_refinement`), and pyscript holds exactly one bus listener / `mqtt.async_subscribe` subscription / webhook
registration for a key that has a queue and none otherwise – subscribe on the first listener, unsubscribe on the last. -/
theorem C09_channels_legacy (ops : List Op) (key : String) :
    (∀ q, q ∈ evSubs (run delContinuesNow .legacy ops).ev key ↔
        ChanTables (·.events) (run delContinuesNow .legacy ops).started key q) ∧
    (∀ q, q ∈ evSubs (run delContinuesNow .legacy ops).mq key ↔
        ChanTables (·.mqtts) (run delContinuesNow .legacy ops).started key q) ∧
    (∀ q, q ∈ evSubs (run delContinuesNow .legacy ops).wh key ↔
        ChanTables (·.hooks) (run delContinuesNow .legacy ops).started key q) ∧
    busCount (run delContinuesNow .legacy ops).ev.bus key =
        (if (evSubs (run delContinuesNow .legacy ops).ev key).isEmpty then 0 else 1) ∧
    busCount (run delContinuesNow .legacy ops).mq.bus key =
        (if (evSubs (run delContinuesNow .legacy ops).mq key).isEmpty then 0 else 1) ∧
    busCount (run delContinuesNow .legacy ops).wh.bus key =
        (if (evSubs (run delContinuesNow .legacy ops).wh key).isEmpty then 0 else 1) := by
  have hx := (run_now .legacy ops).2
  obtain ⟨he, heo⟩ := hx.evc.legacy rfl
  obtain ⟨hm, hmo⟩ := hx.mqc.legacy rfl
  obtain ⟨hw, hwo⟩ := hx.whc.legacy rfl
  exact ⟨he key, hm key, hw key, evOK_count heo key, evOK_count hmo key, evOK_count hwo key⟩

/-- **New subsystem: Home Assistant registrations after ANY operation sequence.**  Every started `@event_trigger` /
`@mqtt_trigger` / `@webhook_trigger` holds its own registration and nothing else does: the number of bus listeners,
MQTT subscriptions and webhook registrations per key equals the number of decorators of the started generations naming
it (`Spec.demand`); the notify tables are not used; and a webhook id never has more than one registration (Home
Assistant's registry is a dictionary – a function naming a registered id is refused as a whole, `hookClash`). -/
theorem C09_channels_new (ops : List Op) (key : String) :
    busCount (run delContinuesNow .new ops).ev.bus key = demand (·.events) (run delContinuesNow .new ops).started key ∧
    busCount (run delContinuesNow .new ops).mq.bus key = demand (·.mqtts) (run delContinuesNow .new ops).started key ∧
    busCount (run delContinuesNow .new ops).wh.bus key = demand (·.hooks) (run delContinuesNow .new ops).started key ∧
    busCount (run delContinuesNow .new ops).wh.bus key ≤ 1 ∧
    (run delContinuesNow .new ops).ev.tbl = [] ∧ (run delContinuesNow .new ops).mq.tbl = [] ∧
    (run delContinuesNow .new ops).wh.tbl = [] := by
  have hx := (run_now .new ops).2
  obtain ⟨het, he⟩ := hx.evc.new rfl
  obtain ⟨hmt, hm⟩ := hx.mqc.new rfl
  obtain ⟨hwt, hw⟩ := hx.whc.new rfl
  exact ⟨he key, hm key, hw key, by rw [hw key]; exact hx.hookx rfl key, het, hmt, hwt⟩

/-- **Unload returns every channel and the service bookkeeping to the baseline.**  Whatever happened before, after
`unloadAll` no event type / topic / webhook id has a queue or a Home Assistant registration left, every service count
is zero and no service name has an owner – in both subsystems. -/
theorem C09_unload_baseline_channels (sub : Sub) (ops : List Op) (key : String) :
    (evSubs (run delContinuesNow sub (ops ++ [.unloadAll])).ev key = [] ∧
      busCount (run delContinuesNow sub (ops ++ [.unloadAll])).ev.bus key = 0) ∧
    (evSubs (run delContinuesNow sub (ops ++ [.unloadAll])).mq key = [] ∧
      busCount (run delContinuesNow sub (ops ++ [.unloadAll])).mq.bus key = 0) ∧
    (evSubs (run delContinuesNow sub (ops ++ [.unloadAll])).wh key = [] ∧
      busCount (run delContinuesNow sub (ops ++ [.unloadAll])).wh.bus key = 0) ∧
    svcCount (run delContinuesNow sub (ops ++ [.unloadAll])).svc key = 0 ∧
    ownerOf (run delContinuesNow sub (ops ++ [.unloadAll])).owner key = none :=
  (run_now sub (ops ++ [Op.unloadAll])).2.baseline (C09_unload_baseline sub ops).1 key

/-- **Service bookkeeping after ANY operation sequence (any number of global contexts).**
`Function.service_cnt[n]` is exactly the number of `@service(n)` declarations of the started (= referenced; a
refused one counts as started without declarations, `inert`) generations; the name has an owner in
`Function.service2global_ctx` exactly while some started generation declares it – so when the owner's last declarer
goes the name is free again –; and every started declarer lives in the owning context. -/
theorem C09_service_bookkeeping (sub : Sub) (ops : List Op) (n : String) :
    svcCount (run delContinuesNow sub ops).svc n = demand (·.services) (run delContinuesNow sub ops).started n ∧
    (ownerOf (run delContinuesNow sub ops).owner n = none ↔ ∀ g ∈ (run delContinuesNow sub ops).started, n ∉ g.services) ∧
    (∀ g ∈ (run delContinuesNow sub ops).started, n ∈ g.services →
      ownerOf (run delContinuesNow sub ops).owner n = some g.ctx) := by
  have hx := (run_now sub ops).2
  exact ⟨hx.cnt n, (hx.free n).trans (demand_eq_zero_iff ..), fun g hg hn => hx.own g hg n hn⟩

/-- **A service name is owned by at most one global context**: after any operation sequence two started generations
declaring the same name live in the same context. -/
theorem C09_service_one_owner (sub : Sub) (ops : List Op) (n : String) (g1 g2 : Gen)
    (h1 : g1 ∈ (run delContinuesNow sub ops).started) (h2 : g2 ∈ (run delContinuesNow sub ops).started)
    (hn1 : n ∈ g1.services) (hn2 : n ∈ g2.services) : g1.ctx = g2.ctx := by
  have hb := (C09_service_bookkeeping sub ops n).2.2
  exact Option.some.inj ((hb g1 h1 hn1).symm.trans (hb g2 h2 hn2))

/-- **A refused claimant changes nothing** – in ANY world (not only a reachable one): defining a function whose start
is refused (its service name belongs to another context; new subsystem: its webhook id is registered already) leaves
`service_cnt`, `service2global_ctx`, every subscription table, every Home Assistant registration and the
startup/shutdown log exactly as they were. -/
theorem C09_refused_changes_nothing (sub : Sub) (w : World) (ctx name : String) (states : List (List Var))
    (events mqtts hooks services : List String) (su sd : Bool)
    (h : refused sub w (mkGen w.next ctx states events mqtts hooks services su sd) = true) :
    (applyOp sub w (.define ctx name states events mqtts hooks services su sd)).svc = w.svc ∧
    (applyOp sub w (.define ctx name states events mqtts hooks services su sd)).owner = w.owner ∧
    (applyOp sub w (.define ctx name states events mqtts hooks services su sd)).st = w.st ∧
    (applyOp sub w (.define ctx name states events mqtts hooks services su sd)).ev = w.ev ∧
    (applyOp sub w (.define ctx name states events mqtts hooks services su sd)).mq = w.mq ∧
    (applyOp sub w (.define ctx name states events mqtts hooks services su sd)).wh = w.wh ∧
    (applyOp sub w (.define ctx name states events mqtts hooks services su sd)).log = w.log := by
  simp only [applyOp, effective, if_pos h, startGen_inert]
  exact ⟨rfl, rfl, rfl, rfl, rfl, rfl, rfl⟩

/-- **When the last declarer is gone the name can be claimed by anybody.**  After any operation sequence, if no started
generation declares `n` any more, the count is zero, the name has no owner, and a claim from ANY context is not
refused on account of `n`. -/
theorem C09_service_free_again (sub : Sub) (ops : List Op) (n : String)
    (hgone : ∀ g ∈ (run delContinuesNow sub ops).started, n ∉ g.services) :
    svcCount (run delContinuesNow sub ops).svc n = 0 ∧ ownerOf (run delContinuesNow sub ops).owner n = none ∧
    ∀ (i : Nat) (ctx : String) (su sd : Bool),
      svcRefused (run delContinuesNow sub ops) (mkGen i ctx [] [] [] [] [n] su sd) = false := by
  obtain ⟨hc, hf, _⟩ := C09_service_bookkeeping sub ops n
  have hnone := hf.mpr hgone
  refine ⟨hc.trans ((demand_eq_zero_iff ..).mpr hgone), hnone, fun i ctx su sd => ?_⟩
  simp [svcRefused, mkGen, hnone]

/-- non-vacuity of `C09_service_free_again` and of the channel theorems: an MQTT topic and a webhook id shared by two
functions (legacy multiplexes: one registration, two queues; the new subsystem refuses the second function as a whole
for the webhook id, so its `@mqtt_trigger` does not subscribe either), then the one declaring `pyscript.s` deleted -/
example :
    let ops := [Op.define "file.t" "f0" [] [] ["t/1"] ["h1"] ["pyscript.s"] false false,
                Op.define "file.u" "f0" [] [] ["t/1"] ["h1"] [] false false]
    (busCount (run delContinuesNow .legacy ops).mq.bus "t/1", (evSubs (run delContinuesNow .legacy ops).mq "t/1").length,
     busCount (run delContinuesNow .legacy ops).wh.bus "h1", (evSubs (run delContinuesNow .legacy ops).wh "h1").length) = (1, 2, 1, 2) ∧
    (busCount (run delContinuesNow .new ops).mq.bus "t/1", busCount (run delContinuesNow .new ops).wh.bus "h1",
     (run delContinuesNow .new ops).started.map (·.mqtts)) = (1, 1, [["t/1"], []]) ∧
    (∀ g ∈ (run delContinuesNow .legacy (ops ++ [.del "file.t" "f0"])).started, "pyscript.s" ∉ g.services) := by
  decide

/-- non-vacuity: two functions, one redefined, one kept in a container after `del`; the started generations are the
survivors -/
example : ((run delContinuesNow .legacy [.define "c" "f" [[["pyscript", "a"], ["pyscript", "a", "old"]]] ["ev"] [] [] [] false false,
      .define "c" "g" [[["pyscript", "b"]]] [] [] [] [] false false, .put 0 "c" "g", .del "c" "g",
      .define "c" "f" [[["pyscript", "c"]]] [] [] [] [] false false]).started.map (·.id)) = [1, 2] := by decide

end PsModel.C09
