import PsModel.Lemmas.C18
/-!
# C18 – property theorems (error attribution and containment)
-/
namespace PsModel.C18

/-- **The reconstructed traceback names Python's own (file, function, line) triples** – for every chain of
activations of any depth, any number of nested `aeval` frames and ignored interpreter frames per activation, reached
through call expressions or called directly, on any evaluators – as long as no two *consecutive* activations are of
the same function of the same file (`_partial`: see `C18_cex_recursion`).  Holds for both shapes of the `aeval` branch
(before and after the repair of C18-F3). -/
theorem C18_fmt_partial (c : Cfg) (chain : List Act) (h : NoAdj chain) : fmtC c (framesOf chain) = pyTraceback chain := by
  rw [fmtC_framesOf, foldl_push_nil h, List.reverse_reverse]
  rfl

/-- non-vacuity: a chain of depth 3 across two files without adjacent equal activations -/
example : NoAdj [⟨"a.py", "f", 1, "a.py", "file.a", [4], 5, false, 1⟩, ⟨"m.py", "g", 1, "a.py", "file.a", [], 9, true, 2⟩,
                 ⟨"a.py", "f", 1, "a.py", "file.a", [2], 3, true, 0⟩] := by
  simp [NoAdj]

/-- the same below a module body (an error while a file is loaded, or in a Jupyter cell): the module body
contributes its file, the context name as "function" and its current line, then the chain follows -/
theorem C18_fmt_module_partial (c : Cfg) (m : ModAct) (chain : List Act) (h : NoAdj chain) (hfirst : FirstOk m chain) :
    fmtC c (modFrames m ++ framesOf chain) = modTriple m :: pyTraceback chain := by
  rw [fmtC, (run_mod_chain c m chain {} (enterCtx_init c m.ctx) (noMerge_nil _) h hfirst).1,
    List.reverse_append, List.reverse_reverse]
  rfl

/-- **Imports are attributed to the imported file (the full statement finding C18-F3 blocked; current code).**  A file
body `m0` with its chain of functions, below it ANY number of nested imports – each one the real frames of the import
machinery, the body of the imported file on its own evaluator, and the chain of functions that body calls: every
file body is reported under its OWN file with its own line, every function as Python reports it. -/
theorem C18_fmt_imports (m0 : ModAct) (pre : List Act) (segs : List Seg) (hpre : NoAdj pre) (hfirst : FirstOk m0 pre)
    (hsegs : SegsOk (lastCtx m0.ctx pre) segs) :
    fmt (modFrames m0 ++ framesOf pre ++ segs.flatMap segFrames) = modTriple m0 :: pyTraceback pre ++ pyImports segs := by
  have hmc := run_mod_chain Cfg.current m0 pre {} (enterCtx_init _ m0.ctx) (noMerge_nil _) hpre hfirst
  rw [fmt, fmtC, run_append, run_segs segs _ _ hmc.2 hsegs, hmc.1, List.reverse_append, List.reverse_append,
    List.reverse_reverse, List.reverse_reverse]
  rfl

/-- the same when the outermost activation is a function called by an entry point (trigger, service, task) and a
function of the chain imports lazily -/
theorem C18_fmt_lazy_imports (a : Act) (pre : List Act) (segs : List Seg) (hpre : NoAdj (a :: pre))
    (hsegs : SegsOk (lastCtx a.ctx pre) segs) :
    fmt (framesOf (a :: pre) ++ segs.flatMap segFrames) = pyTraceback (a :: pre) ++ pyImports segs := by
  have hinv : Inv (runC Cfg.current {} (framesOf (a :: pre))) (lastCtx a.ctx pre) := by
    rw [framesOf_cons, run_append, run_act]
    exact (run_chain Cfg.current pre _).2 a.ctx ⟨rfl, rfl⟩
  rw [fmt, fmtC, run_append, run_segs segs _ _ hinv hsegs, (run_chain Cfg.current (a :: pre) {}).1, foldl_push_nil hpre,
    List.reverse_append, List.reverse_reverse, List.reverse_reverse]
  rfl

/-- non-vacuity of `SegsOk`: `a.py` imports `m.py` whose body imports `n.py` whose body calls `g` -/
example : SegsOk (lastCtx 1 [])
    [⟨[⟨"global_ctx.py", "module_import", 238⟩, ⟨"global_ctx.py", "load_file", 385⟩], ⟨2, "modules/m.py", "modules.m", [], 2, 1⟩, []⟩,
     ⟨[⟨"global_ctx.py", "module_import", 238⟩, ⟨"global_ctx.py", "load_file", 385⟩], ⟨3, "modules/n.py", "modules.n", [], 4, 1⟩,
      [⟨"modules/n.py", "g", 3, "modules/n.py", "modules.n", [], 2, true, 1⟩]⟩] := by
  refine ⟨⟨by decide, ⟨_, rfl, by simp⟩, trivial, fun _ _ h => nomatch h⟩,
    ⟨by decide, ⟨_, rfl, by simp⟩, trivial, fun a r h => ?_⟩, trivial⟩
  cases h
  simp

/-- **Finding #21 / C18-F1 (witness).**  Direct recursion `f → f → f`: three activations, ONE reported frame (with the
innermost line) – every `aeval` frame of the inner activations replaces the entry of the outer one. -/
theorem C18_cex_recursion :
    fmt (framesOf [⟨"a.py", "f", 1, "a.py", "file.a", [4], 5, true, 1⟩, ⟨"a.py", "f", 1, "a.py", "file.a", [4], 5, true, 1⟩,
                   ⟨"a.py", "f", 1, "a.py", "file.a", [2], 3, true, 1⟩])
      = [{ file := "a.py", func := some "f", line := 3, isReal := false }] ∧
    pyTraceback [⟨"a.py", "f", 1, "a.py", "file.a", [4], 5, true, 1⟩, ⟨"a.py", "f", 1, "a.py", "file.a", [4], 5, true, 1⟩,
                 ⟨"a.py", "f", 1, "a.py", "file.a", [2], 3, true, 1⟩]
      = [{ file := "a.py", func := some "f", line := 5, isReal := false },
         { file := "a.py", func := some "f", line := 5, isReal := false },
         { file := "a.py", func := some "f", line := 3, isReal := false }] := by
  refine ⟨?_, rfl⟩
  rw [fmt, fmtC_framesOf]
  simp [push, triple]

/-- **Finding C18-F5 (witness).**  A decorator's wrapper carries the decorated function's name: wrapper (line 3) and
function (line 8) are two activations of the same (file, name) and are merged. -/
theorem C18_decorator_cex :
    fmt (framesOf [⟨"a.py", "f0", 1, "a.py", "file.a", [], 3, true, 1⟩, ⟨"a.py", "f0", 1, "a.py", "file.a", [], 8, true, 1⟩])
      = [{ file := "a.py", func := some "f0", line := 8, isReal := false }] := by
  rw [fmt, fmtC_framesOf]
  simp [push, triple]

-- The witnesses on frame lists are evaluated by `simp` unfolding the formatter: its procedures for string literals
-- compare and append natively and leave the kernel a small check, where `decide` would take every comparison through
-- the byte representation.
attribute [local simp] fmtC runC stepC enterCtx astFrame entryFunc Cfg.preF3 Cfg.current

/-- **Finding C18-F4 (witness).**  The traceback of a chained cause begins inside a function body (at the `try` that
caught it): no `EvalFunc.call` frame, so the entry names the evaluator (`file.a.f0`) and the evaluator's file, not
the function `f1` of `modules/m.py` in which line 3 was executed. -/
theorem C18_chained_cause_cex :
    fmt [.other, .aeval 1 "a.py" "file.a.f0" (some 3), .other, .aeval 1 "a.py" "file.a.f0" (some 3)]
      = [{ file := "a.py", func := some "file.a.f0", line := 3, isReal := false }] := by
  simp

/-- **Regression witness for the repaired finding C18-F3.**  Before the repair `current_filename` was set by the first
`aeval` frame only: when file `a.py` imports module `m.py` at load time and `m.py` raises, the frames of `m`'s module
body were attributed to `a.py` (file name and source line of `a.py`, line NUMBER of `m.py`) – `Cfg.preF3`; the
current shape names `modules/m.py`. -/
theorem C18_regress_nested_load :
    fmtC Cfg.preF3 [.aeval 1 "a.py" "file.a" (some 2), .other, .real "global_ctx.py" "module_import" 231,
         .real "global_ctx.py" "load_file" 378, .other, .aeval 2 "modules/m.py" "modules.m" (some 7)]
      = [{ file := "a.py", func := some "file.a", line := 2, isReal := false },
         { file := "global_ctx.py", func := some "module_import", line := 231, isReal := true },
         { file := "global_ctx.py", func := some "load_file", line := 378, isReal := true },
         { file := "a.py", func := some "modules.m", line := 7, isReal := false }] ∧
    fmt [.aeval 1 "a.py" "file.a" (some 2), .other, .real "global_ctx.py" "module_import" 231,
         .real "global_ctx.py" "load_file" 378, .other, .aeval 2 "modules/m.py" "modules.m" (some 7)]
      = [{ file := "a.py", func := some "file.a", line := 2, isReal := false },
         { file := "global_ctx.py", func := some "module_import", line := 231, isReal := true },
         { file := "global_ctx.py", func := some "load_file", line := 378, isReal := true },
         { file := "modules/m.py", func := some "modules.m", line := 7, isReal := false }] := by
  constructor <;> simp

/-- the same for a lazy import inside a function: before the repair the module body's line was reported as a line of
the importing FUNCTION -/
theorem C18_regress_lazy_import :
    fmtC Cfg.preF3 [.callFunc "f0", .evalFuncCall "f0" "a.py", .aeval 1 "a.py" "file.a.f0" (some 2),
         .real "global_ctx.py" "load_file" 378, .aeval 2 "modules/m.py" "modules.m" (some 3)]
      = [{ file := "a.py", func := some "f0", line := 2, isReal := false },
         { file := "global_ctx.py", func := some "load_file", line := 378, isReal := true },
         { file := "a.py", func := some "f0", line := 3, isReal := false }] ∧
    fmt [.callFunc "f0", .evalFuncCall "f0" "a.py", .aeval 1 "a.py" "file.a.f0" (some 2),
         .real "global_ctx.py" "load_file" 378, .aeval 2 "modules/m.py" "modules.m" (some 3)]
      = [{ file := "a.py", func := some "f0", line := 2, isReal := false },
         { file := "global_ctx.py", func := some "load_file", line := 378, isReal := true },
         { file := "modules/m.py", func := some "modules.m", line := 3, isReal := false }] := by
  constructor <;> simp

attribute [local simp] lastLine pyLastLine nativeStr finalLine strFailed

/-- **The report ends with Python's own `Type: message` line** – whatever class, wherever `__str__` is defined (builtin
or in the script), whether it returns a text (also the empty one), raises or returns a non-string – except a script
`__str__` that WAITS for something before it returns (`_partial`: see `C18_last_line_cex`). -/
theorem C18_last_line_partial (name : String) (i : StrImpl) (h : ∀ t, i ≠ .script (.suspends t)) :
    lastLine true name i = pyLastLine name i := by
  rcases i with r | (t | _ | _ | t)
  case script.suspends => exact absurd rfl (h t)
  case native => rfl
  all_goals simp only [lastLine, pyLastLine, nativeStr, if_true]

/-- non-vacuity -/
example : ∀ t, StrImpl.script (.returns "custom text") ≠ .script (.suspends t) := by intro t h; cases h

/-- a script `__str__` that waits (`task.sleep`) cannot be completed from the synchronous formatter: the report says
`<exception str() failed>` where Python would print the text -/
theorem C18_last_line_cex :
    lastLine true "Cus" (.script (.suspends "late")) = "Cus: <exception str() failed>" ∧
    pyLastLine "Cus" (.script (.suspends "late")) = "Cus: late" := by
  constructor <;> simp

/-- **Regression witness for the repaired finding C18-F9.**  Before the repair the text of EVERY `__str__` defined in a
script was lost (`str()` got a coroutine). -/
theorem C18_regress_script_str :
    lastLine false "Cus" (.script (.returns "custom text")) = "Cus: <exception str() failed>" ∧
    lastLine true "Cus" (.script (.returns "custom text")) = "Cus: custom text" ∧
    pyLastLine "Cus" (.script (.returns "custom text")) = "Cus: custom text" := by
  refine ⟨?_, ?_, ?_⟩ <;> simp

/-- **An `Exception` in user code is contained**: whatever the trigger expression, the `@state_active`
expression and the function body of an occurrence do (return or raise), serving the occurrence returns normally
(the function is total: nothing propagates), consumes the occurrence, leaves the trigger's subscriptions/timers
unchanged, and logs exactly the first failure – one record, on the script's logger, with the script traceback –
in BOTH trigger subsystems. -/
theorem C18_contained (sub : Subsys) (lg : String) (s : Loop) (o : Occ) :
    (serve (fnCaught sub) lg s o).subs = s.subs ∧
    (serve (fnCaught sub) lg s o).served = s.served + 1 ∧
    (serve (fnCaught sub) lg s o).log = s.log ++ (specRecs o).map (scriptRec lg) ∧
    (specRecs o).length ≤ 1 := by
  rw [fnCaught_eq]
  exact ⟨(serve_counters true lg s o).1, (serve_counters true lg s o).2.1, serve_log_caught lg s o, specRecs_length o⟩

/-- **The loop survives any sequence of failures**: after any list of occurrences, every one has been served,
the subscriptions are unchanged, the function ran exactly for the qualifying occurrences, and the log holds exactly
one record per failing occurrence, in order. -/
theorem C18_loop_survives (sub : Subsys) (lg : String) (os : List Occ) (s : Loop) :
    (serveAll (fnCaught sub) lg s os).subs = s.subs ∧
    (serveAll (fnCaught sub) lg s os).served = s.served + os.length ∧
    (serveAll (fnCaught sub) lg s os).runs = s.runs + (os.filter specRuns).length ∧
    (serveAll (fnCaught sub) lg s os).done = s.done + (os.filter (fun o => specRuns o && o.body == Res.ok)).length ∧
    (serveAll (fnCaught sub) lg s os).log = s.log ++ (os.flatMap specRecs).map (scriptRec lg) := by
  rw [fnCaught_eq]
  induction os generalizing s with
  | nil => exact ⟨rfl, rfl, rfl, rfl, (List.append_nil _).symm⟩
  | cons o r ih =>
    obtain ⟨h1, h2, h3, h4⟩ := serve_counters true lg s o
    obtain ⟨a, b, c, d, e⟩ := ih (serve true lg s o)
    rw [serveAll_cons]
    refine ⟨a.trans h1, ?_, ?_, ?_, ?_⟩
    · rw [b, h2, List.length_cons, Nat.add_assoc, Nat.add_comm 1]
    · rw [c, h3, length_filter_cons, Nat.add_assoc, Nat.add_comm (List.length _)]
    · rw [d, h4, length_filter_cons, Nat.add_assoc, Nat.add_comm (List.length _)]
    · rw [e, serve_log_caught, List.flatMap_cons, List.map_append, List.append_assoc]

/-- **Regression witness for the repaired finding C18-F2.**  If a trigger function is awaited WITHOUT a handler (the
shape of `FunctionDecoratorManager._call` before commit b73983a), its exception is still contained (loop state as
above) but it is reported by `Function.run_coro` on the integration's generic logger with a Python traceback – not on
the script's logger, and without script file/function/line.  The current code no longer has this shape
(`fnCaught .new = true`); the entry family checks that on every run. -/
theorem C18_regress_uncaught_trigger_function (lg : String) (s : Loop) (e : Nat) :
    (serve false lg s ⟨.ok, true, .ok, true, .raise e⟩).log = s.log ++ [{ logger := "function", exc := e, scriptTb := false }] ∧
    (serve false lg s ⟨.ok, true, .ok, true, .raise e⟩).subs = s.subs ∧
    (serve false lg s ⟨.ok, true, .ok, true, .raise e⟩).served = s.served + 1 := by
  simp [serve, contain, callAction]

/-- **Load isolation**: after a load pass over any list of planned files, exactly the files that did not raise
are registered, in order – each of them is loaded no matter how many others failed – every failing file has
exactly one record on its own logger, and NO function of a file that failed to load is run by the clean-up (the full
statement finding C18-F10 blocked). -/
theorem C18_load_isolated (files : List SrcFile) (s : Loaded) :
    (loadAll files s).contexts = s.contexts ++ specContexts files ∧
    ((loadAll files s).log.filter (·.scriptTb)).map (·.logger)
      = (s.log.filter (·.scriptTb)).map (·.logger) ++ (failing files).map (·.name) ∧
    (loadAll files s).ran = s.ran := by
  obtain ⟨a, b, c⟩ := loadAllC_spec true files s
  refine ⟨a, b, c.trans ?_⟩
  -- a trigger of a file that is still loading was never started: the clean-up runs nothing
  rw [show (failing files).flatMap (stopUnstarted true) = [] from List.flatMap_eq_nil_iff.mpr fun _ _ => rfl, List.append_nil]

/-- **Regression witness for the repaired finding C18-F10.**  Before the repair the clean-up after a failed load ran the
`@time_trigger("shutdown")` functions the file had defined before it raised (legacy subsystem) – code of a file that
"failed to load" was executed. -/
theorem C18_regress_failed_load_runs_shutdown :
    (loadAllC false [⟨"file.a", .ok, 0⟩, ⟨"file.bad", .raise 1, 1⟩, ⟨"file.good", .ok, 0⟩] ⟨[], [], []⟩).ran = ["file.bad"] ∧
    (loadAll [⟨"file.a", .ok, 0⟩, ⟨"file.bad", .raise 1, 1⟩, ⟨"file.good", .ok, 0⟩] ⟨[], [], []⟩).ran = [] ∧
    (loadAllC false [⟨"file.a", .ok, 0⟩, ⟨"file.bad", .raise 1, 1⟩, ⟨"file.good", .ok, 0⟩] ⟨[], [], []⟩).contexts
      = ["file.a", "file.good"] :=
  ⟨rfl, rfl, rfl⟩

end PsModel.C18
