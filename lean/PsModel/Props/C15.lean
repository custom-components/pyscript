import PsModel.Lemmas.C15
/-!
# C15 – property theorems: `task.wait_until` returns for the first qualifying trigger and always cleans up

`Legacy.run fl cfg q tb v0 call hist` / `New.run fl …` = (exit, tables afterwards) of one call with arguments `cfg`,
fresh queue `q`, tables `tb` before, current value `v0` of the watched variable, at instant `call`, followed by the
timed history `hist` (state changes, events, cancellation of the waiter).  `Spec.first` = the first of {check-now,
first decisive occurrence, deadline anchored at the call}.

`fl : Flags` chooses between the code before and after the five `fix:` commits of /repo:
`Flags.current` (d8d17a4 stop-on-cancel, 74d9745 timeout=0, 28f0376 anchored `now`, 3b0ef9c `none` only for a lone
expired time trigger, a3cf272 legacy unsubscribe in a `finally`) is what the correspondence check ties to the working
tree; `Flags.preFix` is the tree before them.  The `_flags` theorems are proved for EVERY flag value with
the fragment depending on the flag; the unsuffixed ones are their instances at `Flags.current`, where no hypothesis
about a flag's fragment remains; the `_regress_` theorems are kernel-checked witnesses that the pre-fix shapes violate
these (they would fail to build if somebody re-introduced the old shape as current and kept the full theorems).

Scope of the first-of and after-the-return theorems: calls WITHOUT `state_hold` / `state_hold_false` (`NoHolds`).
Calls with a hold run the executable hold machines `Legacy.loopH` / `New.loopH`, which mirror the hold variables of
the code and are tied to it by the correspondence check and judged by the Python timeline oracle; the theorems that
do not look inside the wait (clean-up, `C15_before`, `C15_entries_ignored`) and the last example cover them.
-/
namespace PsModel.C15
open Spec

/-- **First qualifying trigger (legacy), every flag value.**  For all well-formed arguments without holds, all current
values, all call instants and all time-ordered histories without an occurrence at the very instant of the deadline
(`NoTies`, the grid of the harness): the call ends exactly as specified – with the first decisive occurrence or the
deadline (time instant / timeout after `T`), immediately on a true check-now, with `none` iff nothing can ever
happen, and it keeps waiting otherwise – provided the time trigger is anchored at the call (`Anchored`: always for
the repaired loop; for the pre-fix loop only when it is not now-relative) and is not `once(now + 0s)` (`PosRel`). -/
theorem C15_first_legacy_flags (fl : Flags) (cfg : Cfg) (hwf : WellFormed cfg) (hnh : NoHolds cfg) (hanch : Anchored fl cfg.time)
    (hpos : PosRel cfg.time) (q : Nat) (tb : Tables) (v0 call : Nat) (hist : Hist) (hm : Mono call hist)
    (hnt : NoTies cfg call hist) :
    (Legacy.run fl cfg q tb v0 call hist).1 = first cfg v0 call hist := by
  by_cases hany : (hasListen cfg || hasTime cfg) = true
  · rw [Legacy.run_of_trigger fl hany, Legacy.setup_eq fl cfg hwf, Legacy.waitLoop_noHolds fl cfg hnh]
    cases hx : startExit cfg v0 call with
    | some e => unfold first; rw [← startExit_noHolds hnh, hx]
    | none => exact Legacy.loop_eq_first fl hanch hpos hm hnt (startExit_noHolds hnh v0 call ▸ hx)
  · -- no trigger at all: `none` at once, or the sleep until the timeout
    rw [Legacy.run_of_no_trigger fl hany, first_of_no_trigger hany]
    cases ht : cfg.timeout with
    | none => rfl
    | some T => exact Legacy.sleepExit_eq_wait hany ht hm

/-- **First qualifying trigger (legacy), the code as it is now.**  Also for now-relative time triggers
(`once(now + d)`, `d > 0`): `Anchored` holds for every time trigger; `NoHolds`, `PosRel` and `NoTies` stay. -/
theorem C15_first_legacy (cfg : Cfg) (hwf : WellFormed cfg) (hnh : NoHolds cfg) (hpos : PosRel cfg.time) (q : Nat) (tb : Tables)
    (v0 call : Nat) (hist : Hist) (hm : Mono call hist) (hnt : NoTies cfg call hist) :
    (Legacy.run Flags.current cfg q tb v0 call hist).1 = first cfg v0 call hist :=
  C15_first_legacy_flags Flags.current cfg hwf hnh (by intro h; cases h) hpos q tb v0 call hist hm hnt

/-- **Regression witness (legacy), fixed finding C15-F6 (28f0376).**  `time_trigger="once(now + 3s)"` with a
non-qualifying event after 2 s: the pre-fix loop re-anchors `now` and returns at 5 s; the repaired loop returns at
3 s as specified. -/
theorem C15_first_regress_legacy_reanchor :
    let cfg : Cfg := { state := Option.none, time := .rel 3000, mqtt := Option.none, timeout := Option.none,
                       event := some { filt := some (fun d => some (decide (d = 1))), parseOK := true } }
    let tb : Tables := { stSubs := [], evSubs := [], evListeners := 0, mqSubs := [], mqListeners := 0, tasks := 0 }
    let hist : Hist := [(2001, .event 0)]
    (Legacy.run Flags.preFix cfg 7 tb 0 1 hist).1 = .ret 5001 (.time 5001) ∧
    first cfg 0 1 hist = .ret 3001 (.time 3001) ∧
    (Legacy.run Flags.current cfg 7 tb 0 1 hist).1 = .ret 3001 (.time 3001) := by
  decide

/-- **First qualifying trigger (new), every flag value.**  Same statement for the new subsystem, without `PosRel` and
`NoTies`; only for the pre-fix shapes: the timeout is not 0 (`timeout0Absent`) and a time trigger without future
instant is not combined with anything else (`noneEager`). -/
theorem C15_first_new_flags (fl : Flags) (cfg : Cfg) (call : Nat) (hwf : WellFormed cfg) (hnh : NoHolds cfg)
    (htz : fl.timeout0Absent = true → cfg.timeout ≠ some 0)
    (hdead : fl.noneEager = true → hasTime cfg = true →
      (timeNext cfg.time call).isSome = true ∨ (hasListen cfg = false ∧ cfg.timeout = Option.none))
    (q : Nat) (tb : Tables) (v0 : Nat) (hist : Hist) (hm : Mono call hist) :
    (New.run fl cfg q tb v0 call hist).1 = first cfg v0 call hist := by
  have heff := New.effTimeout_eq fl cfg htz
  have hdl : New.dl fl cfg call = deadlineAt cfg call := by unfold New.dl deadlineAt; rw [heff]
  unfold New.run
  by_cases hk : New.noKwargs cfg = true
  · -- no argument at all
    rw [if_pos hk]
    simp only [New.noKwargs, Bool.and_eq_true, Bool.not_eq_true', Option.isNone_iff_eq_none] at hk
    rw [first_of_no_trigger (by rw [hk.1]; decide), hk.2]
  · have hnd : New.noDecorators fl cfg = false := by
      unfold New.noDecorators
      rw [heff]
      exact Bool.eq_false_iff.2 hk
    unfold first
    rw [← startExit_noHolds hnh, if_neg hk, if_neg (by rw [hwf]; decide), if_neg (by rw [hnd]; decide), New.start_eq]
    cases startExit cfg v0 call with
    | some e => rfl
    | none =>
      simp only
      rw [← New.expiredNone_eq fl cfg call heff hdead (Bool.eq_false_iff.2 hk)]
      cases New.expiredNone fl cfg call with
      | true => rfl
      | false =>
        simp only [Bool.false_eq_true, if_false, New.finish]
        rw [New.waitLoop_noHolds fl cfg hnh]
        exact New.loop_eq_wait fl hdl hm

/-- **First qualifying trigger (new), FULL statement, the code as it is now.**  For ALL well-formed arguments without
holds – every timeout including 0, every time trigger including expired ones next to other conditions –, all current
values, call instants and time-ordered histories the call ends exactly as specified. -/
theorem C15_first_new (cfg : Cfg) (call : Nat) (hwf : WellFormed cfg) (hnh : NoHolds cfg)
    (q : Nat) (tb : Tables) (v0 : Nat) (hist : Hist) (hm : Mono call hist) :
    (New.run Flags.current cfg q tb v0 call hist).1 = first cfg v0 call hist :=
  C15_first_new_flags Flags.current cfg call hwf hnh (by intro h; cases h) (by intro h; cases h) q tb v0 hist hm

/-- **Regression witness (new), fixed finding C15-F3 (#23, 74d9745).**  `task.wait_until(event_trigger="e",
timeout=0)`: the pre-fix shape never returns (and `timeout=0` alone raises); the repaired shape returns `timeout` at
once, like legacy and the specification. -/
theorem C15_first_regress_new_timeout0 :
    let cfg : Cfg := { state := Option.none, time := .none, mqtt := Option.none, timeout := some 0,
                       event := some { filt := Option.none, parseOK := true } }
    let only : Cfg := { state := Option.none, time := .none, mqtt := Option.none, timeout := some 0, event := Option.none }
    let tb : Tables := { stSubs := [], evSubs := [], evListeners := 0, mqSubs := [], mqListeners := 0, tasks := 0 }
    first cfg 0 1 [] = .ret 1 .timeout ∧ first only 0 1 [] = .ret 1 .timeout ∧
    (New.run Flags.preFix cfg 7 tb 0 1 []).1 = .waiting ∧
    (New.run Flags.preFix cfg 7 tb 0 1 [(500, .event 3)]).1 = .ret 500 (.event 3) ∧
    (New.run Flags.preFix only 7 tb 0 1 []).1 = .exc 1 .runtime ∧
    New.run Flags.current cfg 7 tb 0 1 [(500, .event 3)] = (.ret 1 .timeout, tb) ∧
    New.run Flags.current only 7 tb 0 1 [] = (.ret 1 .timeout, tb) ∧
    (Legacy.run Flags.current cfg 7 tb 0 1 []).1 = .ret 1 .timeout := by
  decide

/-- **Regression witness (new), fixed finding C15-F5 (3b0ef9c).**  A time trigger without any future instant next to
an event trigger (or a timeout): the pre-fix shape returns `none` at once; the repaired shape waits for the event /
the timeout like legacy and the specification, and still answers `none` when the expired time trigger is alone. -/
theorem C15_first_regress_new_none_early :
    let cfg : Cfg := { state := Option.none, time := .abs 0, mqtt := Option.none, timeout := Option.none,
                       event := some { filt := Option.none, parseOK := true } }
    let withTo : Cfg := { state := Option.none, time := .abs 0, mqtt := Option.none, timeout := some 2000, event := Option.none }
    let alone : Cfg := { state := Option.none, time := .abs 0, mqtt := Option.none, timeout := Option.none, event := Option.none }
    let tb : Tables := { stSubs := [], evSubs := [], evListeners := 0, mqSubs := [], mqListeners := 0, tasks := 0 }
    let hist : Hist := [(1001, .event 4)]
    first cfg 0 1 hist = .ret 1001 (.event 4) ∧
    (Legacy.run Flags.current cfg 7 tb 0 1 hist).1 = .ret 1001 (.event 4) ∧
    (New.run Flags.preFix cfg 7 tb 0 1 hist).1 = .ret 1 .none ∧
    New.run Flags.current cfg 7 tb 0 1 hist = (.ret 1001 (.event 4), tb) ∧
    first withTo 0 1 [] = .ret 2001 .timeout ∧
    (New.run { Flags.current with noneEager := true } withTo 7 tb 0 1 []).1 = .ret 1 .none ∧
    New.run Flags.current withTo 7 tb 0 1 [] = (.ret 2001 .timeout, tb) ∧
    New.run Flags.current alone 7 tb 0 1 hist = (.ret 1 .none, tb) ∧ first alone 0 1 hist = .ret 1 .none := by
  decide

/-- **The entries are ignored (both subsystems, current code)**, whatever the arguments, the timeline and the entries:
a call whose `time_trigger` list holds `"startup"` / `"shutdown"` (or is empty) behaves exactly like the call with
the remaining specifications – so every theorem of this file about `runAt` speaks about such calls too. -/
theorem C15_entries_ignored (en : Entries) (fl : Flags) (cfg : Cfg) (q : Nat) (tb : Tables) (v call : Nat) (full : Hist) :
    Legacy.runAtE en fl cfg q tb v call full = Legacy.runAt fl cfg q tb v call full ∧
    New.runAtE entriesActedCurrent en fl cfg q tb v call full = New.runAt fl cfg q tb v call full :=
  ⟨rfl, rfl⟩

/-- **Regression witness (new), fixed finding C15-F8.**  `time_trigger=["startup"]` next to an event trigger: the
pre-fix shape returns a `time` result at the call; `time_trigger=["shutdown"]` next to an event trigger: the pre-fix
shape replaces the event that ends the wait (and a timeout likewise) by a `time` result; the repaired shape returns
the event / the timeout like legacy and the specification.  A check-now hit still wins in the pre-fix shape. -/
theorem C15_first_regress_new_entries :
    let cfg : Cfg := { state := Option.none, time := .abs 0, mqtt := Option.none, timeout := Option.none,
                       event := some { filt := Option.none, parseOK := true } }
    let withTo : Cfg := { cfg with timeout := some 500 }
    let chk : Cfg := { cfg with state := some { expr := fun v => some (decide (v = 5)), checkNow := true, parseOK := true } }
    let tb : Tables := { stSubs := [], evSubs := [], evListeners := 0, mqSubs := [], mqListeners := 0, tasks := 0 }
    let hist : Hist := [(1001, .event 4)]
    let su : Entries := { startup := true, shutdown := false }
    let sd : Entries := { startup := false, shutdown := true }
    first cfg 0 1 hist = .ret 1001 (.event 4) ∧
    (Legacy.runAtE su Flags.current cfg 7 tb 0 1 hist).1 = .ret 1001 (.event 4) ∧
    (New.runAtE entriesActedPreFix su Flags.current cfg 7 tb 0 1 hist).1 = .ret 1 (.time 1) ∧
    (New.runAtE entriesActedPreFix sd Flags.current cfg 7 tb 0 1 hist).1 = .ret 1001 (.time 1001) ∧
    (New.runAtE entriesActedPreFix sd Flags.current withTo 7 tb 0 1 hist).1 = .ret 501 (.time 501) ∧
    (New.runAtE entriesActedPreFix su Flags.current chk 7 tb 5 1 hist).1 = .ret 1 (.state Option.none) ∧
    New.runAtE entriesActedCurrent su Flags.current cfg 7 tb 0 1 hist = (.ret 1001 (.event 4), tb) ∧
    New.runAtE entriesActedCurrent sd Flags.current cfg 7 tb 0 1 hist = (.ret 1001 (.event 4), tb) ∧
    New.runAtE entriesActedCurrent sd Flags.current withTo 7 tb 0 1 hist = (.ret 501 .timeout, tb) := by
  decide

/-- **Before the call.**  The whole timeline before the call matters only through the value the watched variable has
at the call (which the check-now reads): two timelines that agree after the call and on that value give the same
exit and the same tables – events and state changes before the call are not seen (nothing is subscribed yet). -/
theorem C15_before (fl : Flags) (cfg : Cfg) (q : Nat) (tb : Tables) (v v' call : Nat) (full full' : Hist)
    (hafter : after call full = after call full') (hval : valueAt v call full = valueAt v' call full') :
    Legacy.runAt fl cfg q tb v call full = Legacy.runAt fl cfg q tb v' call full' ∧
    New.runAt fl cfg q tb v call full = New.runAt fl cfg q tb v' call full' := by
  unfold Legacy.runAt New.runAt
  rw [hafter, hval]
  exact ⟨rfl, rfl⟩

/-- **After the return (legacy).**  Whatever happens after the instant of the exit (return, exception or
cancellation) changes neither the exit nor the tables. -/
theorem C15_after_legacy (fl : Flags) (cfg : Cfg) (hnh : NoHolds cfg) (q : Nat) (tb : Tables) (v0 call : Nat) (hist later : Hist)
    (hne : (Legacy.run fl cfg q tb v0 call hist).1 ≠ .waiting)
    (hl : ∀ p ∈ later, exitTime (Legacy.run fl cfg q tb v0 call hist).1 < p.1) :
    Legacy.run fl cfg q tb v0 call (hist ++ later) = Legacy.run fl cfg q tb v0 call hist := by
  by_cases hany : (hasListen cfg || hasTime cfg) = true
  · rw [Legacy.run_of_trigger fl hany] at hne hl
    rw [Legacy.run_of_trigger fl hany, Legacy.run_of_trigger fl hany]
    cases hs : Legacy.setup fl cfg q tb v0 call with
    | error r => rfl
    | ok tb1 =>
      rw [hs] at hne hl
      simp only [Legacy.waitLoop_noHolds fl cfg hnh] at hne hl ⊢
      rw [Legacy.loop_after fl ⟨hne, hl⟩]
  · rw [Legacy.run_of_no_trigger fl hany] at hl
    rw [Legacy.run_of_no_trigger fl hany, Legacy.run_of_no_trigger fl hany]
    cases ht : cfg.timeout with
    | none => rfl
    | some T =>
      rw [ht] at hl
      simp only at hl ⊢
      rw [Legacy.sleepExit_after hl]

/-- **After the return (new).** -/
theorem C15_after_new (fl : Flags) (cfg : Cfg) (hnh : NoHolds cfg) (q : Nat) (tb : Tables) (v0 call : Nat) (hist later : Hist)
    (hne : (New.run fl cfg q tb v0 call hist).1 ≠ .waiting)
    (hl : ∀ p ∈ later, exitTime (New.run fl cfg q tb v0 call hist).1 < p.1) :
    New.run fl cfg q tb v0 call (hist ++ later) = New.run fl cfg q tb v0 call hist := by
  rcases New.run_cases fl cfg q tb v0 call with ⟨e, _, h⟩ | h
  · rw [h, h]
  · rw [h] at hne hl
    rw [h, h]
    cases hs : New.start fl cfg q tb v0 call with
    | error r => rfl
    | ok p =>
      simp only [hs, New.finish, New.waitLoop_noHolds fl cfg hnh] at hne hl ⊢
      rw [New.loop_after fl ⟨hne, hl⟩]

/-- **Clean-up (legacy), every flag value.**  For ALL arguments (also ill-formed ones), tables in which the queue of
the call is not yet subscribed (`Fresh`), values and histories: whenever the subscriptions are not kept
(`Legacy.keeps`: still waiting; cancelled waiter only in the pre-fix shape) – and, only in the pre-fix shape, the exit
is not a non-parsing MQTT/webhook filter next to an event trigger – every table is exactly what it was before the
call. -/
theorem C15_cleanup_legacy_flags (fl : Flags) (cfg : Cfg) (q : Nat) (tb : Tables) (v0 call : Nat) (hist : Hist)
    (hf : Fresh q tb) (hleak : fl.legacyNoFinally = true → ¬ LeakyParse cfg)
    (hexit : Legacy.keeps fl (Legacy.run fl cfg q tb v0 call hist).1 = false) :
    (Legacy.run fl cfg q tb v0 call hist).2 = tb := by
  by_cases hany : (hasListen cfg || hasTime cfg) = true
  · rw [Legacy.run_of_trigger fl hany] at hexit ⊢
    rcases Legacy.setup_cases fl cfg q tb v0 call with ⟨e, t', h, _, ht⟩ | h
    · rw [h]
      exact ht hf hleak
    · rw [h] at hexit ⊢
      simp only at hexit ⊢
      rw [hexit, if_neg Bool.false_ne_true]
      exact Legacy.cleanup_subscribed cfg q tb hf
  · rw [Legacy.run_of_no_trigger fl hany]
    cases cfg.timeout <;> rfl

/-- **Clean-up (legacy), FULL statement, the code as it is now.**  For ALL arguments (also ill-formed ones), tables
(`Fresh` for the call's queue), values and histories, on EVERY exit path – return, exception in a condition, filter
that does not parse, and cancellation of the waiting task at every instant – all subscriptions and listeners the call
created are released. -/
theorem C15_cleanup_legacy (cfg : Cfg) (q : Nat) (tb : Tables) (v0 call : Nat) (hist : Hist)
    (hf : Fresh q tb) (hended : (Legacy.run Flags.current cfg q tb v0 call hist).1 ≠ .waiting) :
    (Legacy.run Flags.current cfg q tb v0 call hist).2 = tb :=
  C15_cleanup_legacy_flags Flags.current cfg q tb v0 call hist hf (by intro h; cases h) (keeps_current hended).1

/-- **Clean-up (new), every flag value.**  For tables without the call's queue in `State.notify`: whenever the manager
is not kept (`New.keeps`: still waiting; cancelled waiter only in the pre-fix shape), every table is exactly what it
was before the call. -/
theorem C15_cleanup_new_flags (fl : Flags) (cfg : Cfg) (q : Nat) (tb : Tables) (v0 call : Nat) (hist : Hist)
    (hf : q ∉ tb.stSubs) (hexit : New.keeps fl (New.run fl cfg q tb v0 call hist).1 = false) :
    (New.run fl cfg q tb v0 call hist).2 = tb := by
  rcases New.run_cases fl cfg q tb v0 call with ⟨e, _, h⟩ | h
  · rw [h]
  · rw [h] at hexit ⊢
    rcases New.start_cases fl cfg q tb v0 call hf with ⟨e, he, _⟩ | hs
    · rw [he]; rfl
    · rw [hs] at hexit ⊢
      simp only [New.finish] at hexit ⊢
      rw [hexit, if_neg Bool.false_ne_true]
      exact New.stopAll_applied q _ tb hf

/-- **Clean-up (new), FULL statement, the code as it is now.**  For ALL arguments (also ill-formed ones), tables
(without the call's queue in `State.notify`), values and histories, on EVERY exit path – return, exception in a
condition, parse error, and cancellation of the waiting task at every instant – all subscriptions, listeners and
background tasks the call created are released. -/
theorem C15_cleanup_new (cfg : Cfg) (q : Nat) (tb : Tables) (v0 call : Nat) (hist : Hist)
    (hf : q ∉ tb.stSubs) (hended : (New.run Flags.current cfg q tb v0 call hist).1 ≠ .waiting) :
    (New.run Flags.current cfg q tb v0 call hist).2 = tb :=
  C15_cleanup_new_flags Flags.current cfg q tb v0 call hist hf (keeps_current hended).2

/-- **Regression witness (legacy), fixed finding C15-F1 (#20, a3cf272).**  The waiter is cancelled while waiting
(what `task.unique` does): in the pre-fix shape the state subscription, the event subscription and its bus listener
stay behind; the repaired shape leaves the tables as they were. -/
theorem C15_cleanup_regress_legacy_cancel :
    let cfg : Cfg := { state := some { expr := fun v => some (decide (v = 5)), checkNow := true, parseOK := true },
                       time := .none, mqtt := Option.none, timeout := Option.none,
                       event := some { filt := Option.none, parseOK := true } }
    let tb : Tables := { stSubs := [], evSubs := [], evListeners := 0, mqSubs := [], mqListeners := 0, tasks := 0 }
    Legacy.run Flags.preFix cfg 7 tb 0 1 [(1001, .cancel)] =
      (.cancelled 1001, { stSubs := [7], evSubs := [7], evListeners := 1, mqSubs := [], mqListeners := 0, tasks := 0 }) ∧
    Legacy.run Flags.current cfg 7 tb 0 1 [(1001, .cancel)] = (.cancelled 1001, tb) := by
  decide

/-- **Regression witness (new), fixed finding C15-F2 (#20, d8d17a4).**  Same scenario: in the pre-fix shape the state
subscription, the decorator's bus listener and the background task of the state trigger stay behind; the repaired
shape leaves the tables as they were. -/
theorem C15_cleanup_regress_new_cancel :
    let cfg : Cfg := { state := some { expr := fun v => some (decide (v = 5)), checkNow := true, parseOK := true },
                       time := .none, mqtt := Option.none, timeout := Option.none,
                       event := some { filt := Option.none, parseOK := true } }
    let tb : Tables := { stSubs := [], evSubs := [], evListeners := 0, mqSubs := [], mqListeners := 0, tasks := 0 }
    New.run Flags.preFix cfg 7 tb 0 1 [(1001, .cancel)] =
      (.cancelled 1001, { stSubs := [7], evSubs := [], evListeners := 1, mqSubs := [], mqListeners := 0, tasks := 1 }) ∧
    New.run Flags.current cfg 7 tb 0 1 [(1001, .cancel)] = (.cancelled 1001, tb) := by
  decide

/-- **Regression (legacy), the general form of the fixed C15-F1.**  In every shape without the `finally`
(`legacyNoFinally`), for all arguments and histories: if the call ends by cancellation (at whatever step of the
wait), the tables afterwards are the tables with all subscriptions of the call still in place – different from the
tables before as soon as any state / event / MQTT trigger was given. -/
theorem C15_cleanup_regress_legacy_cancel_all (fl : Flags) (hflag : fl.legacyNoFinally = true) (cfg : Cfg) (q : Nat)
    (tb : Tables) (v0 call : Nat) (hist : Hist) (t : Nat) (hf : Fresh q tb) (hl : hasListen cfg = true)
    (hc : (Legacy.run fl cfg q tb v0 call hist).1 = .cancelled t) :
    (Legacy.run fl cfg q tb v0 call hist).2 = Legacy.subscribed cfg q tb ∧
    (Legacy.run fl cfg q tb v0 call hist).2 ≠ tb := by
  have hany : (hasListen cfg || hasTime cfg) = true := by rw [hl]; rfl
  rw [Legacy.run_of_trigger fl hany] at hc ⊢
  rcases Legacy.setup_cases fl cfg q tb v0 call with ⟨e, t', h, hr, _⟩ | h
  · -- the set-up never ends by a cancellation
    rw [h] at hc
    obtain rfl : e = .cancelled t := hc
    cases hr
  · rw [h] at hc ⊢
    simp only at hc ⊢
    rw [hc, show Legacy.keeps fl (.cancelled t) = true from hflag, if_pos rfl]
    exact ⟨rfl, Legacy.subscribed_ne cfg q tb hf hl⟩

/-- **Regression (new), the general form of the fixed C15-F2.**  In every shape that does not stop on cancellation
(`cancelNoStop`), a call that ends by cancellation leaves everything the successful `start` took in place. -/
theorem C15_cleanup_regress_new_cancel_all (fl : Flags) (hflag : fl.cancelNoStop = true) (cfg : Cfg) (q : Nat)
    (tb : Tables) (v0 call : Nat) (hist : Hist) (t : Nat)
    (hf : q ∉ tb.stSubs) (hc : (New.run fl cfg q tb v0 call hist).1 = .cancelled t) :
    ∃ s, (New.run fl cfg q tb v0 call hist).2 = New.applied q s tb ∧
      New.start fl cfg q tb v0 call = .ok (s, New.applied q s tb) := by
  rcases New.run_cases fl cfg q tb v0 call with ⟨e, hl, h⟩ | h
  · rw [h] at hc
    obtain rfl : e = .cancelled t := hc
    cases hl
  · rw [h] at hc ⊢
    rcases New.start_cases fl cfg q tb v0 call hf with ⟨e, he, hl⟩ | hs
    · -- `start` never ends by a cancellation
      rw [he] at hc
      obtain rfl : e = .cancelled t := hc
      cases hl
    · refine ⟨_, ?_, hs⟩
      rw [hs] at hc ⊢
      simp only [New.finish] at hc ⊢
      rw [hc]
      simp only [New.keeps, hflag, if_true]

/-- **Regression witness (legacy), fixed finding C15-F4 (a3cf272).**  `event_trigger="e"` together with an MQTT trigger
whose filter does not parse: in the pre-fix shape the `SyntaxError` leaves the event subscription and its bus
listener behind (only the state subscription is removed on that path); the repaired shape leaves nothing, like the
new subsystem, which validates first. -/
theorem C15_cleanup_regress_legacy_parse :
    let cfg : Cfg := { state := Option.none, time := .none, mqtt := some { parseOK := false }, timeout := Option.none,
                       event := some { filt := Option.none, parseOK := true } }
    let tb : Tables := { stSubs := [], evSubs := [], evListeners := 0, mqSubs := [], mqListeners := 0, tasks := 0 }
    Legacy.run Flags.preFix cfg 7 tb 0 1 [] =
      (.exc 1 .parse, { stSubs := [], evSubs := [7], evListeners := 1, mqSubs := [], mqListeners := 0, tasks := 0 }) ∧
    Legacy.run Flags.current cfg 7 tb 0 1 [] = (.exc 1 .parse, tb) ∧
    New.run Flags.current cfg 7 tb 0 1 [] = (.exc 1 .parse, tb) := by
  decide

/-- `WellFormed`, `PosRel` and `Fresh` hold in a scenario in which every kind of condition is present: state trigger
(check-now false, later true), now-relative time trigger, event trigger with filter, timeout; the state change at
2.5 s wins -/
example :
    let cfg : Cfg := { state := some { expr := fun v => some (decide (v > 3)), checkNow := true, parseOK := true },
                       time := .rel 9000, mqtt := some { parseOK := true }, timeout := some 8000,
                       event := some { filt := some (fun d => some (decide (d = 1))), parseOK := true } }
    let tb : Tables := { stSubs := [3], evSubs := [], evListeners := 0, mqSubs := [4], mqListeners := 1, tasks := 2 }
    let hist : Hist := [(501, .event 0), (1501, .state 2), (2501, .state 7), (3001, .event 1)]
    WellFormed cfg ∧ PosRel cfg.time ∧ Fresh 7 tb ∧
    Legacy.run Flags.current cfg 7 tb 0 1 hist = (.ret 2501 (.state (some 7)), tb) ∧
    New.run Flags.current cfg 7 tb 0 1 hist = (.ret 2501 (.state (some 7)), tb) ∧
    first cfg 0 1 hist = .ret 2501 (.state (some 7)) := by
  unfold WellFormed PosRel Fresh
  decide

/-- the hold machines on the two scenarios of the seeded changes C15_3 / C15_4: a `state_hold` longer than the timeout
ends with `timeout` (not `state`) in both subsystems; after a too-short false period a true→true change does not
end a `state_hold_false` wait, the next sufficiently long false period does -/
example :
    let tb : Tables := { stSubs := [], evSubs := [], evListeners := 0, mqSubs := [], mqListeners := 0, tasks := 0 }
    let holdCfg : Cfg := { state := some { expr := fun v => some (decide (v > 3)), checkNow := true, parseOK := true,
                                           hold := some 5000 },
                           time := .none, mqtt := Option.none, timeout := some 400, event := Option.none }
    let hfCfg : Cfg := { state := some { expr := fun v => some (decide (v ≥ 10)), checkNow := false, parseOK := true,
                                         holdFalse := some 500 },
                         time := .none, mqtt := Option.none, timeout := some 10000, event := Option.none }
    let hist : Hist := [(101, .state 5), (201, .state 11), (1001, .state 12), (1101, .state 5), (1801, .state 13)]
    Legacy.run Flags.current holdCfg 7 tb 7 1 [] = (.ret 401 .timeout, tb) ∧
    New.run Flags.current holdCfg 7 tb 7 1 [] = (.ret 401 .timeout, tb) ∧
    Legacy.run Flags.current holdCfg 7 tb 0 1 [(101, .state 5)] = (.ret 401 .timeout, tb) ∧
    Legacy.run Flags.current hfCfg 7 tb 20 1 hist = (.ret 1801 (.state (some 13)), tb) ∧
    New.run Flags.current hfCfg 7 tb 20 1 hist = (.ret 1801 (.state (some 13)), tb) := by
  decide

end PsModel.C15
