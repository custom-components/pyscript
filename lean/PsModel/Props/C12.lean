import PsModel.Lemmas.C12
/-!
# C12 – property theorems: a `@service` exists exactly while declared and calls the current definition

The life-cycle machine of `Model/C12.lean` is one machine with switches (`Cfg`); `legacyCfg` and `newCfg` are the two
subsystems.  The invariants below are proved for **every** switch setting and **every** operation sequence
(define / redefine at file level or at run time, any start order of the new subsystem's managers, delete, unload/reload,
any number of contexts).  Where the code leaves the property, a `_cex` theorem exhibits the reachable sequence
(open findings C12-F1, F5b, F6) and the positive theorem states the fragment that does hold.  The repairs made in /repo
(C12-F2: a name given twice is registered once; C12-F3: the new subsystem registers under the global-context name;
C12-F4: a manager whose function died before the delayed start is discarded; C12-F5: managers start in definition order;
C12-F8 to F11: see the fields of `Cfg` and `OutCfg`) are switches whose current values are extracted from the source
(`C12_cfg_current`); the former counterexamples are kept as `_regress` theorems about the settings before the repair
(`legacyPreFix`, `newPreFix`, `caseSensitive`, `builtinAsWritten`, `registeredLate`).
-/
namespace PsModel.C12
open PsModel.C16 (aget aset adel)

/-- **Reference counting is consistent, always.**  After any operation sequence in either subsystem, for every service
name: it is registered (an entry of the `handler` table; with the lower-cased key that is Home Assistant's own table,
`C12_ha_agrees`) iff its count is positive iff it has an owner entry; the count is at least the
number of registrations the live holders (functions / decorator managers) will give back, and *exactly* that number
when the holder's bookkeeping is exact (`Exact cfg`: the started declarations are kept as a list – new subsystem –
or a name that is already tracked is not registered again – legacy since the repair). -/
theorem C12_count_inv (cfg : Cfg) (ops : List Op) (k : Svc) :
    (registered (run cfg {} ops).reg k = true ↔ cntOf (run cfg {} ops).reg k > 0) ∧
    ((aget k (run cfg {} ops).reg.owner).isSome = true ↔ cntOf (run cfg {} ops).reg k > 0) ∧
    trackedCount (run cfg {} ops).holders k ≤ cntOf (run cfg {} ops).reg k ∧
    (Exact cfg → trackedCount (run cfg {} ops).holders k = cntOf (run cfg {} ops).reg k) := by
  have hi := inv_reach cfg ops
  obtain ⟨h1, h2⟩ := hi.regOK k
  refine ⟨?_, ?_, hi.cntGe k, fun hs => tight_reach cfg ops (fun _ _ => Or.inl hs) k⟩
  · simp only [registered]; rw [h1]; simp
  · rw [h2]; simp

/-- **The working tree contains all eight repairs**: the switch values extracted from `trigger_init`,
`ServiceDecorator.start`, `on_func_var_deleted`, `GlobalContext.start`, `service_register` / `service_remove` (the
lower-cased key), the built-in name tests of `trigger_init` / `ServiceDecorator.validate`, the place where `trigger_init`
enters the function in its context's trigger registry (C12-F11) and the way the entity-method call form is finished
(C12-F8: `State.get` / `Function.hass_services_async_call`) are the repaired ones (undoing a repair in the source makes
this theorem fail). -/
theorem C12_cfg_current :
    legacyCfg = ⟨true, false, false, false, false, true, false, false, true, true, true⟩ ∧
    newCfg = ⟨false, false, true, true, true, false, true, true, true, true, true⟩ ∧
    outCfg = ⟨true, true⟩ := by decide

/-- **A refused name is not remembered** (tie of `acquireAll`, which tracks a name only after `register` accepted it, to the
source): in `trigger_init` the statement `self.trigger_service.add(srv_name)` comes after `Function.service_register(...)`,
so a declaration refused because another context owns the name leaves nothing to remove when its function dies
(`C12_owner`, `C12_owner_shared` then keep the owner's registration intact). -/
theorem C12_tracks_after_register : PsModel.Gen.LEGACY_TRACKS_AFTER_REGISTER = true := by decide

/-- **Exact counting in both subsystems as they are now**: for every operation sequence the count of every service is
exactly the number of registrations the live holders will give back (legacy: the holders are the live functions,
`C12_legacy_holders_live`). -/
theorem C12_count_exact (ops : List Op) (k : Svc) :
    trackedCount (run legacyCfg {} ops).holders k = cntOf (run legacyCfg {} ops).reg k ∧
    trackedCount (run newCfg {} ops).holders k = cntOf (run newCfg {} ops).reg k :=
  ⟨tight_reach legacyCfg ops (fun _ _ => Or.inl (Or.inr (by decide))) k,
   tight_reach newCfg ops (fun _ _ => Or.inl (Or.inl (by decide))) k⟩

/-- **Exact counting without the duplicate-name repair (partial: no function names a service twice).**  When definitions are started
at once (`delayTopLevel = false`: the legacy subsystem, e.g. `legacyPreFix`) and every definition's service names are
distinct, the count of every service equals the number of registrations the live functions hold – for every operation
sequence; `C12_duplicate_regress` shows that before the repair the hypothesis was needed. -/
theorem C12_count_exact_partial (cfg : Cfg) (hd : cfg.delayTopLevel = false) (ops : List Op)
    (hn : ∀ op ∈ ops, ∀ ctx fn var gen decl, op = .define ctx fn var gen decl → ((foldDecl cfg decl).map (·.1)).Nodup) (k : Svc) :
    trackedCount (run cfg {} ops).holders k = cntOf (run cfg {} ops).reg k :=
  tight_reach cfg ops (fun op ho => Or.inr ⟨hd, hn op ho⟩) k

/-- **In the legacy subsystem the holders are live functions** (given `regEarly`, the repair of C12-F11: without it an
unload leaves the holder of an aborted `trigger_init` behind, `C12_regress_unload_after_refusal`): after any operation
sequence every holder is bound to its global variable and running – so the counts above count declarations of *live*
functions.  (For the new subsystem see `C12_holders_bound`.) -/
theorem C12_legacy_holders_live (cfg : Cfg) (hd : cfg.delayTopLevel = false) (he : cfg.regEarly = true) (ops : List Op)
    (h : Holder) (hm : h ∈ (run cfg {} ops).holders) : h.bound = true ∧ h.status = .running :=
  have := holders_live cfg (Or.inr hd) he ops {} (by simp) h hm
  ⟨this.1, this.2 hd⟩

/-- **Every holder belongs to a live function – under the switch values both subsystems have now**
(`C12_cfg_current`).  Where a manager whose function dies before the delayed start is discarded (`cfg.dropDelayed`), every
holder – running or still waiting for `GlobalContext.start()` – is bound to its global variable after any operation
sequence; no manager outlives its function any more (`C12_regress_redefined_at_load` is the pre-fix witness). -/
theorem C12_holders_bound (cfg : Cfg) (hc : cfg.dropDelayed = true ∨ cfg.delayTopLevel = false) (he : cfg.regEarly = true)
    (ops : List Op) (h : Holder) (hm : h ∈ (run cfg {} ops).holders) : h.bound = true :=
  (holders_live cfg hc he ops {} (by simp) h hm).1

/-- **The delayed managers are started in definition order** (since the repair of `GlobalContext.start`): a start whose
observed registration order is admitted by the model begins the managers of the context in the order in which their
functions were defined (the first registration of each manager; later decorators of a manager may interleave). -/
theorem C12_start_order_admitted (cfg : Cfg) (hd : cfg.delayTopLevel = true) (ho : cfg.orderedStart = true)
    (st : MState) (ctx : String) (events : List Nat) (ha : (step cfg st (.start ctx events)).inadm = false) :
    events.eraseDups = delayedGens ctx st.holders := by
  simp only [step, hd, if_true, ho, Bool.true_and, Bool.or_eq_false_iff, Bool.not_eq_false'] at ha
  simpa [startOrderOK] using ha.2

/-- **`service_remove` is only ever reached with a positive count** – the `cnt ≤ 1` branch that would un-register a
never-counted key is unreachable from the two life-cycles (every op sequence, both subsystems). -/
theorem C12_remove_safe (cfg : Cfg) (ops : List Op) : (run cfg {} ops).reg.underflow = false :=
  (inv_reach cfg ops).noUnder

/-- **A register under another owner name than the one the service has (another global context) fails and changes
nothing**: count, owner, registered handler (and its `supports_response`) of every service are what they were. -/
theorem C12_owner (r : Reg) (o o' : OwnerName) (k : Svc) (h : Handler) (hown : aget k r.owner = some o') (hne : o' ≠ o) :
    (register r o k h).2 = false ∧ (∀ k', cntOf (register r o k h).1 k' = cntOf r k') ∧
    (register r o k h).1.handler = r.handler ∧ (register r o k h).1.owner = r.owner := by
  have ha : accepts r o k = false := by simp [accepts, hown, hne]
  obtain ⟨a, b, c, d, _⟩ := register_refused r o k h ha
  exact ⟨a, b, c, d⟩

/-- … and consequently all live holders of a service name registered it under one and the same owner name: two contexts
never hold the same service at the same time (every op sequence, both subsystems). -/
theorem C12_owner_shared (cfg : Cfg) (ops : List Op) (h1 h2 : Holder) (k : Svc)
    (m1 : h1 ∈ (run cfg {} ops).holders) (m2 : h2 ∈ (run cfg {} ops).holders)
    (t1 : k ∈ h1.tracked) (t2 : k ∈ h2.tracked) :
    h1.owner = h2.owner ∧ aget k (run cfg {} ops).reg.owner = some h1.owner := by
  have hi := inv_reach cfg ops
  have a := hi.owner h1 m1 k t1
  have b := hi.owner h2 m2 k t2
  rw [a] at b
  exact ⟨Option.some.inj b, a⟩

/-- **Nothing is left behind (exact bookkeeping: both subsystems as they are now)**: once no holder is left – every context unloaded, every
function deleted – no service is registered any more. -/
theorem C12_unload_clean (cfg : Cfg) (hl : Exact cfg) (ops : List Op)
    (hempty : (run cfg {} ops).holders = []) (k : Svc) : registered (run cfg {} ops).reg k = false := by
  have := tight_reach cfg ops (fun _ _ => Or.inl hl) k
  rw [hempty, trackedCount_nil] at this
  have h1 := ((inv_reach cfg ops).regOK k).1
  simp only [registered]; rw [h1, ← this]; simp

/-- **A (re)definition ends with the new definition's handler.**  In any reachable state, a definition that is started
at once (legacy: always; new: a definition executed at run time) and whose names are all accepted leaves, for every
name it declares, the `handler` table (Home Assistant's own, with the lower-cased key: `C12_ha_agrees`) holding the
handler of *this* definition with a `supports_response` it declared for the name – the old function object is released
only after the new registration (register-before-remove, seamless). -/
theorem C12_latest_after_define (cfg : Cfg) (ops : List Op) (ctx : String) (fn : Option String) (var : String) (gen : Nat)
    (decl : List (Svc × Resp)) (hnow : (cfg.delayTopLevel && fn.isNone) = false)
    (hok : (acquireAll cfg (ownerFor cfg ctx fn) gen (run cfg {} ops).reg (foldDecl cfg decl) []).ok = true)
    (k : Svc) (hk : k ∈ (foldDecl cfg decl).map (·.1)) :
    ∃ rs, (k, rs) ∈ foldDecl cfg decl ∧
      aget k (step cfg (run cfg {} ops) (.define ctx fn var gen decl)).reg.handler = some ⟨gen, rs⟩ := by
  have hi := inv_reach cfg ops
  generalize run cfg {} ops = st at hi hok
  show ∃ rs, (k, rs) ∈ foldDecl cfg decl ∧
      aget k (defineStep cfg st ctx fn var gen (foldDecl cfg decl)).reg.handler = some ⟨gen, rs⟩
  generalize foldDecl cfg decl = D at hok hk ⊢
  have q := acquireAll_spec cfg (ownerFor cfg ctx fn) gen D st.reg [] hi.regOK
  obtain ⟨o1, o2, _⟩ := acquireAll_ok cfg (ownerFor cfg ctx fn) gen D D st.reg [] (fun d hd => hd)
    (fun x hx => by simp at hx) hok
  have t1 := o2 k hk
  obtain ⟨rs, t2, t3⟩ := o1 k t1
  refine ⟨rs, t2, ?_⟩
  simp only [defineStep, hnow, Bool.false_eq_true, if_false, startReg, hok, Bool.true_or, if_true, unbindReg_eq]
  -- the old function object gives back at most what the holders tracked before; the new registration of `k` stays
  generalize hl : (st.holders.filter (stops cfg ctx var)).flatMap (·.tracked) = l
  have hle : l.count k ≤ trackedCount st.holders k := by
    rw [← hl, count_tracked]; have := trackedCount_filter (stops cfg ctx var) st.holders k; omega
  obtain ⟨_, b2, _, b4⟩ := releaseList_spec l _ q.regOK (fun k => by
    rw [← hl, count_tracked]
    have := trackedCount_filter (stops cfg ctx var) st.holders k; have := hi.cntGe k; have h3 := q.grows k
    rw [List.count_nil] at h3; omega)
  have hpos : cntOf (releaseList (acquireAll cfg (ownerFor cfg ctx fn) gen st.reg D []).reg l) k > 0 := by
    have := List.count_pos_iff.mpr t1
    have := b2 k; have h3 := q.grows k; have := hi.cntGe k
    rw [List.count_nil] at h3
    omega
  rw [(b4 k hpos).2]; exact t3

/-- **What Home Assistant holds is what the key-indexed tables say** (both subsystems as they are now): Home Assistant
files a service under its lower-cased name; since `service_register` / `service_remove` build their key from the
lower-cased name too (`Cfg.foldCase`, read off the source), after EVERY operation sequence Home Assistant's own table
equals the `handler` table all the theorems above speak about – whatever the letter case of the declared names. -/
theorem C12_ha_agrees (cfg : Cfg) (hf : cfg.foldCase = true) (ops : List Op) :
    (run cfg {} ops).reg.ha = (run cfg {} ops).reg.handler :=
  (haInv_run cfg hf ops {} ⟨rfl, fun h hm => by cases hm⟩).1

/-- … and both subsystems build the lower-cased key now (`foldCase` as read off the source). -/
theorem C12_ha_agrees_now (ops : List Op) :
    (run legacyCfg {} ops).reg.ha = (run legacyCfg {} ops).reg.handler ∧
    (run newCfg {} ops).reg.ha = (run newCfg {} ops).reg.handler :=
  ⟨C12_ha_agrees legacyCfg (by decide) ops, C12_ha_agrees newCfg (by decide) ops⟩

/-- **Everything proved about `run` holds behind the built-in name test**: the test only decides which operation the
machine sees (a definition with fewer names, or the mere loss of the old function object), so the invariants, counts,
ownership and the agreement with Home Assistant's table carry over to `runB` for every switch setting and sequence. -/
theorem C12_builtin_filter (cfg : Cfg) (ops : List Op) (k : Svc) :
    runB cfg {} ops = run cfg {} (ops.map (admitOp cfg)) ∧
    (registered (runB cfg {} ops).reg k = true ↔ cntOf (runB cfg {} ops).reg k > 0) ∧
    (runB cfg {} ops).reg.underflow = false ∧
    (cfg.foldCase = true → (runB cfg {} ops).reg.ha = (runB cfg {} ops).reg.handler) :=
  ⟨rfl, (C12_count_inv cfg (ops.map (admitOp cfg)) k).1, C12_remove_safe cfg (ops.map (admitOp cfg)),
   fun hf => C12_ha_agrees cfg hf (ops.map (admitOp cfg))⟩

/-- **Any spelling of a built-in name is refused today** (decision logic of the test, both subsystems): the machine
never sees a declaration whose service part lower-cases to `reload` / `jupyter_kernel_start`. -/
theorem C12_builtin_refused (cfg : Cfg) (hf : cfg.foldBuiltin = true) (ctx : String) (fn : Option String) (var : String)
    (gen : Nat) (decl : List (Svc × Resp)) :
    match admitOp cfg (.define ctx fn var gen decl) with
    | .define _ _ _ _ d => ∀ x ∈ d, lower (svcPart x.1) ∉ BUILTIN_SERVICES
    | .delete c v => c = ctx ∧ v = var ∧ ∃ x ∈ decl, lower (svcPart x.1) ∈ BUILTIN_SERVICES
    | _ => False := by
  unfold admitOp
  by_cases hr : cfg.rollback = true
  · simp only [hr, if_true]
    by_cases ha : decl.any (fun d => builtinHit cfg d.1) = true
    · simp only [ha, if_true]
      obtain ⟨x, hx, hh⟩ := List.any_eq_true.mp ha
      exact ⟨by simp, by simp, x, hx, by simpa [builtinHit, hf] using hh⟩
    · simp only [ha, Bool.false_eq_true, if_false]
      intro x hx
      have hn : builtinHit cfg x.1 = false := by
        cases hb : builtinHit cfg x.1
        · rfl
        · exact absurd (List.any_eq_true.mpr ⟨x, hx, hb⟩) ha
      simpa [builtinHit, hf] using hn
  · simp only [hr, Bool.false_eq_true, if_false]
    intro x hx
    have := List.all_eq_true.mp List.all_takeWhile x hx
    simpa [builtinHit, hf] using this

/-- **The handler's keyword arguments** are the call's data plus `trigger_type='service'` and `context` (a data key of
the same name wins, as in `dict.update`). -/
theorem C12_call_args (ctxVal : String) (data : Kw) (k : String) :
    aget k (handlerKwargs ctxVal data) = sKwargs ctxVal data k := by
  unfold handlerKwargs sKwargs
  rw [aget_foldl_aset]
  cases aget k data.reverse
  · by_cases h1 : k = "trigger_type"
    · subst h1; simp [aget]
    · by_cases h2 : k = "context"
      · subst h2; simp [aget]
      · have e1 : ¬ "trigger_type" = k := fun e => h1 e.symm
        have e2 : ¬ "context" = k := fun e => h2 e.symm
        simp [aget, h1, h2, e1, e2]
  · rfl

/-- **Overlapping calls do not see each other**: when several calls of one service overlap in time, the `i`-th call is
answered exactly as if it were the only one – it runs the registered definition with *its own* data (plus
`trigger_type='service'` and `context`). -/
theorem C12_overlapping_calls (cfg : Cfg) (r : Reg) (k : Svc) (ctxVal : String) (datas : List Kw) (rr : Bool) (i : Nat) :
    (overlapOutcome cfg r k ctxVal datas rr)[i]? = (datas[i]?).map (fun d => callOutcome cfg r k ctxVal d rr) ∧
    (∀ h, aget k r.handler = some h → (overlapOutcome cfg r k ctxVal datas rr).length = datas.length ∧
      ∀ d, datas[i]? = some d → ∀ g kw b, (overlapOutcome cfg r k ctxVal datas rr)[i]? = some (.ran g kw b) →
        g = h.gen ∧ b = rr ∧ ∀ key, aget key kw = sKwargs ctxVal d key) := by
  refine ⟨by simp [overlapOutcome], fun h hh => ⟨by simp [overlapOutcome], fun d hd g kw b hr => ?_⟩⟩
  simp only [overlapOutcome, List.getElem?_map, hd, Option.map_some, Option.some.injEq] at hr
  simp only [callOutcome, hh] at hr
  split at hr
  · simp at hr
  · split at hr
    · simp at hr
    · simp only [CallOut.ran.injEq] at hr
      obtain ⟨e1, e2, e3⟩ := hr
      exact ⟨e1.symm, e3.symm, fun key => by rw [← e2]; exact C12_call_args ctxVal d key⟩

/-- **Data that fits the function's parameters is delivered unchanged; data that does not fit never runs the function**:
the handler's keyword arguments go through python's binding – a missing required parameter or an unknown keyword
without `**kwargs` is a (logged) `TypeError`, everything else reaches the function as given. -/
theorem C12_bind (sigs : List (Nat × Sig)) (s : Sig) (g : Nat) (kw : Kw) (rr : Bool) (hs : aget g sigs = some s) :
    (bindOK s kw = false → bound sigs (.ran g kw rr) = .bindError) ∧
    (bindOK s kw = true → (rr = false ∨ answerIsDict kw = true) → bound sigs (.ran g kw rr) = .ran g kw rr) ∧
    (bindOK s kw = true ↔ (∀ p ∈ s.required, (aget p kw).isSome = true) ∧ (s.extra = true ∨ ∀ q ∈ kw, q.1 ∈ s.params)) := by
  refine ⟨fun h => by simp [bound, hs, h], fun h hr => ?_, ?_⟩
  · rcases hr with hr | hr <;> simp [bound, hs, h, hr]
  · simp [bindOK, List.all_eq_true]

/-- **The control tables of the three call forms, as extracted** (tie of `controlTable`, which is built from the rows the
extractor reads off the `for keyword, typ, default in [...]` loops of `Function.service_call`, `Function.get` and
`State.get`): `context` / `blocking` / `return_response` with their types, and – entity-method form only – a numeric
`limit` (C12-F7: Home Assistant has no such parameter any more). -/
theorem C12_control_tables (e : Entry) :
    controlTable e = [("context", [.context]), ("blocking", [.bool]), ("return_response", [.bool])] ++
      (if e = .entityMethod then [("limit", [.float, .int])] else []) := by
  cases e <;> rfl

/-- **Outgoing calls deliver exactly the given keyword parameters**: with distinct keywords and no task context, the
service data of `service.call` / `domain.service()` / `domain.entity.service()` is every keyword that is not a call
control of the right type, in the given order (decision logic over the control table of the entry point); an entity
method then adds its `entity_id`. -/
theorem C12_call_split (e : Entry) (entity : String) (kwargs : List Arg) (hn : (kwargs.map (·.key)).Nodup) :
    (splitCall e none kwargs).2 = kwargs.filter (fun a => !isControl e a) ∧
    callData e entity (splitCall e none kwargs).2 = sData e entity kwargs := by
  have bd : ∀ (x y : String), (x == y) = decide (x = y) := by
    intro x y; by_cases h : x = y <;> simp [h]
  have key : (splitCall e none kwargs).2 = kwargs.filter (fun a => !isControl e a) := by
    unfold splitCall
    rw [splitRows_data _ _ hn]
    apply List.filter_congr
    intro a _
    rw [C12_control_tables]
    cases e <;> simp [isControl, bd, Bool.not_or, Bool.and_assoc]
  refine ⟨key, ?_⟩
  rw [key]
  unfold callData sData
  by_cases he : e = .entityMethod
  · simp only [he, if_true, List.filter_filter]
    congr 1
    apply List.filter_congr
    intro a _
    exact Bool.and_comm _ _
  · simp [he]

/-! ## findings: the open ones (`_cex`: each sequence is replayed on the real code) and, for the repaired ones, the
setting before the repair against today's (`regress`) -/

def s1 : Svc := "pyscript.s1"
def s2 : Svc := "pyscript.s2"

/-- **F1 (design #25), both subsystems**: two live functions declare `s1`; the later one is deleted: the service stays
registered with the *deleted* function's handler – the most recent live definition is `1`. -/
theorem C12_latest_cex :
    let ops := [Op.define "a" (some "opA") "f" 1 [(s1, .none)], .define "a" (some "opA") "g" 2 [(s1, .none)], .delete "a" "g"]
    aget s1 (run legacyCfg {} ops).reg.handler = some ⟨2, .none⟩ ∧
    aget s1 (run newCfg {} ops).reg.handler = some ⟨2, .none⟩ ∧
    sHandler (sRun [] ops) s1 = some ⟨1, .none⟩ := by
  simp only [run_low, List.map, lowOp, s1, lower_names]
  decide

/-- **F5b (open), new – what the definition-order repair leaves**: the start tasks of the managers run concurrently and a
manager awaits between its decorators; an earlier function that declares the shared service as its *second* decorator
may register it after the later function did (`[1, 2, 1]` is admitted: the managers *begin* in definition order) – Home
Assistant then calls the older definition. -/
theorem C12_start_interleave_cex :
    let ops := [Op.define "a" none "f" 1 [("test.s3", .none), (s1, .optional)], .define "a" none "g" 2 [(s1, .only)],
                .start "a" [1, 2, 1]]
    aget s1 (run newCfg {} ops).reg.handler = some ⟨1, .optional⟩ ∧ (run newCfg {} ops).inadm = false ∧
    sHandler (sRun [] ops) s1 = some ⟨2, .only⟩ := by
  simp only [run_low, List.map, lowOp, s1, lower_names]
  decide

/-- **F6, both**: a function declares a name owned by another context and a free name: the refusal aborts (legacy, when
the refused name comes first) or rolls back (new) the free name too. -/
theorem C12_refusal_cex :
    let pre := [Op.define "a" none "f" 1 [(s1, .none)], .start "a" [1]]
    let l := pre ++ [.define "b" none "g" 2 [(s1, .none), (s2, .none)]]
    let n := pre ++ [.define "b" (some "opA") "g" 2 [(s2, .none), (s1, .none)]]
    registered (run legacyCfg {} l).reg s2 = false ∧ sHandler (sRun [] l) s2 = some ⟨2, .none⟩ ∧
    registered (run newCfg {} n).reg s2 = false ∧ sHandler (sRun [] n) s2 = some ⟨2, .none⟩ ∧
    aget s1 (run legacyCfg {} l).reg.handler = some ⟨1, .none⟩ ∧ aget s1 (run newCfg {} n).reg.handler = some ⟨1, .none⟩ := by
  simp only [run_low, List.map, List.map_append, lowOp, s1, s2, lower_names]
  decide

/-- **F2 – regression witness (legacy)**: before the repair a function that named the same service twice registered it
twice but remembered it once (`trigger_service` is a set): deleting the function left the service registered – count 1,
no holder.  With the repair (`legacyCfg`) the second mention is skipped and nothing is left. -/
theorem C12_duplicate_regress :
    let ops := [Op.define "a" none "f" 1 [(s1, .none), (s1, .none)], .delete "a" "f"]
    registered (run legacyPreFix {} ops).reg s1 = true ∧ (run legacyPreFix {} ops).holders.length = 0 ∧
    cntOf (run legacyPreFix {} ops).reg s1 = 1 ∧
    registered (run legacyCfg {} ops).reg s1 = false ∧ cntOf (run legacyCfg {} ops).reg s1 = 0 ∧
    registered (run newCfg {} (ops ++ [.start "a" []])).reg s1 = false ∧ sRegistered (sRun [] ops) s1 = false := by
  simp only [run_low, List.map, List.map_append, lowOp, s1, lower_names]
  decide

/-- **F3 – regression witness (new)**: before the repair a service defined at file level and redefined at run time inside
a function was registered under the evaluator's name `a.opA`, refused because `a` owns it, and un-registered when the old
function object went – although the new function is live and declares it.  With the repair (`newCfg`) the redefinition
is accepted and Home Assistant calls the new definition. -/
theorem C12_evaluator_owner_regress :
    let ops := [Op.define "a" none "f" 1 [(s1, .none)], .start "a" [1], .define "a" (some "opA") "f" 2 [(s1, .none)]]
    registered (run newPreFix {} ops).reg s1 = false ∧ sHandler (sRun [] ops) s1 = some ⟨2, .none⟩ ∧
    aget s1 (run newCfg {} ops).reg.handler = some ⟨2, .none⟩ ∧
    aget s1 (run legacyCfg {} ops).reg.handler = some ⟨2, .none⟩ := by
  simp only [run_low, List.map, lowOp, s1, lower_names]
  decide

/-- **F4 – regression witness (new)**: before the repair, when a file defined the same function twice, the manager of the
first (dead) definition was still started by `GlobalContext.start()`; deleting the function afterwards left the service
registered.  With the repair the dead manager is discarded: only the live definition is started (the old schedule
`[1, 2]` is not admitted any more) and nothing is left after the delete. -/
theorem C12_regress_redefined_at_load :
    let defs := [Op.define "a" none "f" 1 [(s1, .none)], .define "a" none "f" 2 [(s1, .none)]]
    let old := defs ++ [.start "a" [1, 2], .delete "a" "f"]
    let now := defs ++ [.start "a" [2], .delete "a" "f"]
    registered (run newPreFix {} old).reg s1 = true ∧ (run newPreFix {} old).inadm = false ∧
    sRegistered (sRun [] old) s1 = false ∧
    (run newCfg {} old).inadm = true ∧
    registered (run newCfg {} now).reg s1 = false ∧ (run newCfg {} now).inadm = false ∧
    cntOf (run newCfg {} (defs ++ [.start "a" [2]])).reg s1 = 1 ∧
    registered (run legacyCfg {} old).reg s1 = false := by
  simp only [run_low, List.map, List.map_append, lowOp, s1, lower_names]
  decide

/-- **F5 – regression witness (new)**: before the repair two functions of one file declaring the same service were
started in set order – when the older one happened to start last (`[2, 1]`), Home Assistant called the older definition.
With the repair that schedule is not admitted; in definition order the most recent definition is called. -/
theorem C12_regress_start_order :
    let defs := [Op.define "a" none "f" 1 [(s1, .optional)], .define "a" none "g" 2 [(s1, .only)]]
    aget s1 (run newPreFix {} (defs ++ [.start "a" [2, 1]])).reg.handler = some ⟨1, .optional⟩ ∧
    (run newPreFix {} (defs ++ [.start "a" [2, 1]])).inadm = false ∧
    sHandler (sRun [] (defs ++ [.start "a" [2, 1]])) s1 = some ⟨2, .only⟩ ∧
    (run newCfg {} (defs ++ [.start "a" [2, 1]])).inadm = true ∧
    aget s1 (run newCfg {} (defs ++ [.start "a" [1, 2]])).reg.handler = some ⟨2, .only⟩ ∧
    (run newCfg {} (defs ++ [.start "a" [1, 2]])).inadm = false := by
  simp only [run_low, List.map, List.map_append, lowOp, s1, lower_names]
  decide

/-- **F9 – regression witness (both subsystems)**: two live functions declare `pyscript.Case1` and `pyscript.case1`.
Before the repair the counts were kept per spelling: deleting `f` took `pyscript.Case1` to 0 and Home Assistant –
which knows only `pyscript.case1` – removed the service `g` still declares (count 1, handler view: definition 2, Home
Assistant: nothing).  With the lower-cased key the count is 2, then 1, and Home Assistant keeps definition 2. -/
theorem C12_regress_case_variant :
    let ops := [Op.define "a" (some "opA") "f" 1 [("pyscript.Case1", .none)],
                .define "a" (some "opA") "g" 2 [("pyscript.case1", .none)], .delete "a" "f"]
    (∀ cfg ∈ [caseSensitive legacyCfg, caseSensitive newCfg],
      aget "pyscript.case1" (run cfg {} ops).reg.ha = none ∧ cntOf (run cfg {} ops).reg "pyscript.case1" = 1 ∧
      aget "pyscript.case1" (run cfg {} ops).reg.handler = some ⟨2, .none⟩) ∧
    (∀ cfg ∈ [legacyCfg, newCfg],
      aget "pyscript.case1" (run cfg {} ops).reg.ha = some ⟨2, .none⟩ ∧ cntOf (run cfg {} ops).reg "pyscript.case1" = 1 ∧
      cntOf (run cfg {} (ops.take 2)).reg "pyscript.case1" = 2) ∧
    sHandler (sRun [] (ops.map lowOp)) "pyscript.case1" = some ⟨2, .none⟩ := by
  simp only [List.forall_mem_cons, List.not_mem_nil, false_imp_iff, implies_true, and_true,
    run_asWritten (caseSensitive legacyCfg) rfl, run_asWritten (caseSensitive newCfg) rfl,
    run_folded legacyCfg rfl, run_folded newCfg rfl, List.map_take, List.map, lowOp, lower_names]
  decide +kernel

/-- **F9b – regression witness (both subsystems)**: ONE function, redefined with another spelling of its service name:
the new definition is registered first (`pyscript.CASE1`, count 1), then the old function gives `pyscript.Case1` back –
count 0, and Home Assistant removed the freshly registered service.  Now both spellings share one count (2, then 1). -/
theorem C12_regress_case_variant_redefine :
    let ops := [Op.define "a" (some "opA") "f" 1 [("pyscript.Case1", .none)],
                .define "a" (some "opA") "f" 2 [("pyscript.CASE1", .optional)]]
    (∀ cfg ∈ [caseSensitive legacyCfg, caseSensitive newCfg],
      aget "pyscript.case1" (run cfg {} ops).reg.ha = none ∧ cntOf (run cfg {} ops).reg "pyscript.CASE1" = 1) ∧
    (∀ cfg ∈ [legacyCfg, newCfg],
      aget "pyscript.case1" (run cfg {} ops).reg.ha = some ⟨2, .optional⟩ ∧ cntOf (run cfg {} ops).reg "pyscript.case1" = 1) ∧
    sHandler (sRun [] (ops.map lowOp)) "pyscript.case1" = some ⟨2, .optional⟩ := by
  simp only [List.forall_mem_cons, List.not_mem_nil, false_imp_iff, implies_true, and_true,
    run_asWritten (caseSensitive legacyCfg) rfl, run_asWritten (caseSensitive newCfg) rfl,
    run_folded legacyCfg rfl, run_folded newCfg rfl, List.map, lowOp, lower_names]
  decide +kernel

/-- **F9 – the ownership side**: before the repair another global context could declare another spelling of a name it
does not own and silently take the Home Assistant service over; now it is refused like the name itself. -/
theorem C12_regress_case_variant_owner :
    let ops := [Op.define "a" (some "opA") "f" 1 [("pyscript.Case1", .none)],
                .define "b" (some "opA") "g" 2 [("pyscript.CASE1", .none)]]
    (∀ cfg ∈ [caseSensitive legacyCfg, caseSensitive newCfg], aget "pyscript.case1" (run cfg {} ops).reg.ha = some ⟨2, .none⟩) ∧
    (∀ cfg ∈ [legacyCfg, newCfg], aget "pyscript.case1" (run cfg {} ops).reg.ha = some ⟨1, .none⟩ ∧
      aget "pyscript.case1" (run cfg {} ops).reg.owner = some ⟨"a", none⟩) := by
  simp only [List.forall_mem_cons, List.not_mem_nil, false_imp_iff, implies_true, and_true,
    run_asWritten (caseSensitive legacyCfg) rfl, run_asWritten (caseSensitive newCfg) rfl,
    run_folded legacyCfg rfl, run_folded newCfg rfl, List.map, lowOp, lower_names]
  decide +kernel

/-- **F10 – regression witness (both subsystems)**: before the repair the test looked at the name as written:
`@service('pyscript.Reload')` passed, and Home Assistant – which lower-cases – filed the script function under
`pyscript.reload`, the key of pyscript's own reload service (replaced; and removed with the function: the count goes
1 → 0).  Today every spelling is refused: nothing of the script's is ever filed under that key; a function that names
other services too keeps those declared before the offending name (legacy) or none at all (new). -/
theorem C12_regress_builtin_case :
    let d1 := Op.define "a" (some "opA") "f" 1 [("pyscript.Reload", .none)]
    let d2 := Op.define "a" (some "opA") "g" 2 [("pyscript.s1", .none), ("test.RELOAD", .none), ("pyscript.s2", .none)]
    (∀ cfg ∈ [builtinAsWritten legacyCfg, builtinAsWritten newCfg],
      aget "pyscript.reload" (runB cfg {} [d1]).reg.ha = some ⟨1, .none⟩ ∧
      cntOf (runB cfg {} [d1]).reg "pyscript.reload" = 1 ∧ cntOf (runB cfg {} [d1, .delete "a" "f"]).reg "pyscript.reload" = 0) ∧
    (∀ cfg ∈ [legacyCfg, newCfg],
      aget "pyscript.reload" (runB cfg {} [d1]).reg.ha = none ∧ cntOf (runB cfg {} [d1]).reg "pyscript.reload" = 0 ∧
      aget "test.reload" (runB cfg {} [d2]).reg.ha = none ∧ aget "pyscript.s2" (runB cfg {} [d2]).reg.ha = none) ∧
    aget "pyscript.s1" (runB legacyCfg {} [d2]).reg.ha = some ⟨2, .none⟩ ∧
    aget "pyscript.s1" (runB newCfg {} [d2]).reg.ha = none ∧
    admitOp legacyCfg (.define "a" none "f" 1 [("pyscript.reload", .none)]) = .define "a" none "f" 1 [] ∧
    admitOp newCfg (.define "a" none "f" 1 [("pyscript.jupyter_kernel_start", .none)]) = .delete "a" "f" := by decide +kernel

/-- **F11 – regression witness (legacy)**: context `b` declares `s2` (free) and `s1` (owned by `a`) on one function: `s2`
is registered, the refusal of `s1` aborts `trigger_init`.  Before the repair the function was then unknown to its
context's trigger registry, so unloading `b` released nothing: `s2` stayed registered (count 1, owner `b`, the handler
of the dead definition 2) with a holder no variable refers to – for ever.  Now the context knows the function from
its first registration on: the unload releases `s2`.  (`del g` released correctly before and after.) -/
theorem C12_regress_unload_after_refusal :
    let ops := [Op.define "a" none "f" 1 [(s1, .none)], .define "b" none "g" 2 [(s2, .none), (s1, .none)], .unload "b"]
    let del := [Op.define "a" none "f" 1 [(s1, .none)], .define "b" none "g" 2 [(s2, .none), (s1, .none)], .delete "b" "g"]
    aget s2 (run (registeredLate legacyCfg) {} ops).reg.handler = some ⟨2, .none⟩ ∧
    cntOf (run (registeredLate legacyCfg) {} ops).reg s2 = 1 ∧
    aget s2 (run (registeredLate legacyCfg) {} ops).reg.owner = some ⟨"b", none⟩ ∧
    (run (registeredLate legacyCfg) {} ops).holders.any (fun h => h.gen == 2 && !h.bound) = true ∧
    sRegistered (sRun [] ops) s2 = false ∧
    registered (run legacyCfg {} ops).reg s2 = false ∧ cntOf (run legacyCfg {} ops).reg s2 = 0 ∧
    (run legacyCfg {} ops).holders.length = 1 ∧
    registered (run (registeredLate legacyCfg) {} del).reg s2 = false ∧ registered (run legacyCfg {} del).reg s2 = false ∧
    aget s1 (run legacyCfg {} ops).reg.handler = some ⟨1, .none⟩ := by
  simp only [run_low, List.map, lowOp, s1, s2, lower_names]
  decide

/-- a clean history over two contexts in both subsystems: model and declaration spec agree on every service -/
example :
    let ops := [Op.define "a" none "f" 1 [(s1, .optional), (s2, .none)], .start "a" [1, 1],
                .define "b" none "f" 2 [(s1, .none)], .start "b" [2],
                .define "a" (some "opA") "g" 3 [("test.s3", .only)], .define "a" (some "opA") "g" 4 [("test.s3", .none)],
                .delete "a" "f", .unload "b", .define "a" (some "opA") "h" 5 [(s2, .only)]]
    (∀ cfg ∈ [legacyCfg, newCfg], ∀ k ∈ [s1, s2, "test.s3"],
      aget k (run cfg {} ops).reg.handler = sHandler (sRun [] ops) k) ∧
    aget "test.s3" (run newCfg {} ops).reg.handler = some ⟨4, .none⟩ ∧ (run newCfg {} ops).inadm = false := by
  simp only [run_low, List.map, lowOp, s1, s2, lower_names]
  decide

/-- the hypotheses of `C12_latest_after_define` are satisfiable (a run-time redefinition in the new subsystem) -/
example : (acquireAll newCfg (ownerFor newCfg "a" (some "opA")) 2
    (run newCfg {} [.define "a" (some "opA") "f" 1 [(s1, .none)]]).reg [(s1, .only)] []).ok = true := by
  simp only [run_low, List.map, lowOp, s1, lower_names]
  decide

end PsModel.C12
