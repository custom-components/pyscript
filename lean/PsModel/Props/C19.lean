import PsModel.Lemmas.C19Kernel
/-! C19: the ZMTP framing under every fragmentation and the shell step over an uninterpreted MAC (`Model/C19`), replies and
writes under every schedule (`Model/C19Sched`, parts (d), (e)), and from (f) on the kernel as it is coded in
`Model/C19Kernel`: greeting, wire messages, handlers, the session and its shutdown. -/
namespace PsModel.C19
open PsModel.Gen

/-- **Fragmentation independence.**  However TCP chunks the byte stream, `recv_multipart` returns the same frames
(or the same error) and leaves the same bytes unread. -/
theorem C19_fragment (cs cs' : List Bytes) (h : cs.flatten = cs'.flatten) :
    flatRes (recvMultipart cs) = flatRes (recvMultipart cs') := by
  rw [recvMultipart_flat, recvMultipart_flat, h]

/-- **Lossless framing.**  Any non-empty list of frames of any lengths below 2^64 written by `send_multipart`,
followed by arbitrary further bytes, delivered in arbitrary chunks, is read back identically, and exactly the
further bytes remain. -/
theorem C19_roundtrip (ps : List Bytes) (rest : Bytes) (chunks : List Bytes)
    (hne : ps ≠ []) (hlen : ∀ p ∈ ps, p.length < 2 ^ 64)
    (hchunks : chunks.flatten = encodeMultipart ps ++ rest) :
    flatRes (recvMultipart chunks) = .ok (ps, rest) := by
  obtain ⟨cs, h, rfl⟩ := recvMultipart_roundtrip ps rest chunks hne hlen hchunks
  rw [h]; rfl

/-- boundary instances named by the property (the general theorem covers all lengths) -/
theorem C19_boundaries (b : Nat) (n : Nat) (hn : n ∈ [0, 1, 255, 256, 65535, 65536]) (rest : Bytes) :
    flatRes (recvMultipart [encodeMultipart [List.replicate n b, []] ++ rest]) = .ok ([List.replicate n b, []], rest) := by
  refine C19_roundtrip _ _ _ (List.cons_ne_nil _ _)
    (List.forall_mem_cons.2 ⟨?_, List.forall_mem_cons.2 ⟨Nat.two_pow_pos 64, nofun⟩⟩) (List.append_nil _)
  rw [List.length_replicate]
  exact (by decide : ∀ n ∈ [0, 1, 255, 256, 65535, 65536], n < 2 ^ 64) n hn

/-- **Heartbeat echo.**  What `send(msg)` writes, `recv()` reads back as `msg` under any chunking. -/
theorem C19_single (m rest : Bytes) (chunks : List Bytes) (hm : m.length < 2 ^ 64)
    (hchunks : chunks.flatten = encodeSingle m ++ rest) :
    (match recvSingle chunks with
     | .ok (x, r) => x = m ∧ r.flatten = rest
     | .error _ => False) := by
  obtain ⟨cs, h, hr⟩ := recvSingle_roundtrip m rest chunks hm hchunks
  rw [h]
  exact ⟨rfl, hr⟩

/-- **Consecutive messages.**  Two messages written back to back are received as two messages. -/
theorem C19_sequence (ps qs : List Bytes) (rest : Bytes) (chunks : List Bytes)
    (hp : ps ≠ []) (hq : qs ≠ []) (hlp : ∀ p ∈ ps, p.length < 2 ^ 64) (hlq : ∀ p ∈ qs, p.length < 2 ^ 64)
    (hchunks : chunks.flatten = encodeMultipart ps ++ encodeMultipart qs ++ rest) :
    ∃ cs1, recvMultipart chunks = .ok (ps, cs1) ∧ flatRes (recvMultipart cs1) = .ok (qs, rest) := by
  obtain ⟨cs1, h1, e⟩ := recvMultipart_roundtrip ps (encodeMultipart qs ++ rest) chunks hp hlp
    (by rw [hchunks, List.append_assoc])
  exact ⟨cs1, h1, C19_roundtrip qs rest cs1 hq hlq e⟩

/-- **Unauthenticated requests are never executed and never answered**: with a signature that is not the MAC of the
four message frames under the session key the step produces no output and no new state (the listener raises). -/
theorem C19_auth (sign : List Bytes → Bytes) (run : Nat → CellResult) (s : KState) (r : Request)
    (h : r.sig ≠ sign r.frames) : shellStep sign run s r = .rejected := by
  rw [shellStep, if_neg fun e => h e.symm]

def Replied : MsgType → Bool
  | .execute | .kernelInfo | .complete | .isComplete | .commInfo | .history => true
  | .comm | .unknown => false

/-- **Valid requests**: bracketed by busy … idle on iopub, every emission carries the request header as parent, and
requests of a replied type get exactly one reply on the shell socket, addressed to the requester's identities. -/
theorem C19_reply (sign : List Bytes → Bytes) (run : Nat → CellResult) (s : KState) (r : Request)
    (h : r.sig = sign r.frames) :
    shellStep sign run s r = .handled (handleValid run s r).1 (handleValid run s r).2 ∧
      (handleValid run s r).2.head? = some (iopub r "status:busy") ∧
      (handleValid run s r).2.getLast? = some (iopub r "status:idle") ∧
      (∀ o ∈ (handleValid run s r).2, o.parent = r.header ∧ o.signedWithKey = true) ∧
      (∀ o ∈ (handleValid run s r).2, o.stream = "shell" → o.idents = r.idents) ∧
      ((handleValid run s r).2.filter (fun o => o.stream = "shell")).length = (if Replied r.mtype then 1 else 0) := by
  obtain ⟨hs, hb, hi⟩ := handleValid_sends run s r
  refine ⟨by rw [shellStep, if_pos h.symm], hb, hi, fun o ho => ⟨(hs.mem o ho).1, (hs.mem o ho).2.1⟩,
    fun o ho => (hs.mem o ho).2.2, ?_⟩
  rw [← List.length_map (·.count), hs.replies]
  cases r.mtype <;> rfl

def runAll (run : Nat → CellResult) : KState → List Request → KState
  | s, [] => s
  | s, r :: rs => runAll run (handleValid run s r).1 rs

/-- **Execution counter and order**: after any sequence of valid requests the counter has advanced by the number of
history-storing execute requests (from its initial 1: one more than that number), and the cells were executed exactly once
each, in request order. -/
theorem C19_counter (run : Nat → CellResult) (rs : List Request) (s : KState) :
    (runAll run s rs).count = s.count + (rs.filter (fun r => r.mtype = .execute ∧ r.storeHistory)).length ∧
    (runAll run s rs).executed = s.executed ++ (rs.filter (fun r => r.mtype = .execute)).map (·.cell) := by
  induction rs generalizing s with
  | nil => exact ⟨rfl, (List.append_nil _).symm⟩
  | cons r rs ih =>
    obtain ⟨h1, h2⟩ := ih (handleValid run s r).1
    rw [runAll, h1, h2, handleValid_state, List.filter_cons, List.filter_cons]
    by_cases he : r.mtype = .execute
    · cases hs : r.storeHistory <;> simp [he, hs, bump, Nat.add_assoc, Nat.add_comm 1]
    · simp [he]

/-- the count reported in an execute reply is the counter *before* the request -/
theorem C19_reply_count (run : Nat → CellResult) (s : KState) (r : Request) (h : r.mtype = .execute) :
    ∀ o ∈ (handleValid run s r).2, o.stream = "shell" → o.count = some s.count := by
  intro o ho hs
  have hr : _ = [some s.count] := h ▸ (handleValid_sends run s r).1.replies
  exact List.mem_singleton.1 (hr ▸ List.mem_map_of_mem (List.mem_filter.2 ⟨ho, decide_eq_true hs⟩))

/-- non-vacuity: a concrete two-frame message delivered in three chunks, a frame body split between two of them -/
example : flatRes (recvMultipart [[1, 2, 7], [9, 0], [0], [5, 5]]) = .ok ([[7, 9], []], [5, 5]) := by rfl

/-! ## (d) replies and broadcasts carry their own request's header under EVERY interleaving of connections -/

theorem step_correlated (s : SchedState) (i : Nat) (h : ∀ m ∈ s.out, m.1 = m.2) :
    ∀ m ∈ (step true s i).out, m.1 = m.2 := by
  unfold step
  cases s.acts[i]? with
  | none => exact h
  | some a =>
    intro m hm
    rcases List.mem_append.1 hm with h' | h'
    · exact h m h'
    · exact stepAct_explicit s.shared a m h'

/-- **Correlation for every schedule.**  Whatever the activations are (any number of connections and requests, any number
of sends each) and in whatever order the scheduler lets them proceed, every message sent carries the header of the
request whose activation sent it – because each send names its own request's header. -/
theorem C19_correlated_any_schedule (acts : List Activation) (sched : List Nat) :
    ∀ m ∈ (run true { acts := acts } sched).out, m.1 = m.2 :=
  List.foldlRecOn (motive := fun s => ∀ m ∈ s.out, m.1 = m.2) sched (step true) (fun _ hm => absurd hm List.not_mem_nil)
    fun s hs i _ => step_correlated s i hs

/-- the code as it is has that shape (the flag is extracted from `Kernel.shell_handler` / `Kernel.send` on every run) -/
theorem C19_correlated_current (acts : List Activation) (sched : List Nat) :
    Current.explicitParent = true ∧ ∀ m ∈ (run Current.explicitParent { acts := acts } sched).out, m.1 = m.2 :=
  ⟨rfl, C19_correlated_any_schedule acts sched⟩

/-- with the shared field instead, two interleaved activations are enough to mis-attribute a reply: activation 7 stores the
field, activation 9 stores it, activation 7 sends -/
theorem C19_regress_shared_parent :
    (run false { acts := [{ id := 7, sends := 2 }, { id := 9, sends := 1 }] } [0, 1, 0]).out = [(7, 9)] ∧
    (run true { acts := [{ id := 7, sends := 2 }, { id := 9, sends := 1 }] } [0, 1, 0]).out = [(7, 7)] := by decide

/-! ## (e) several tasks sending on one socket: every message arrives whole -/

/-- **A stream of messages decodes message by message**, for any number of messages, any fragmentation of the stream into
chunks, any trailing bytes. -/
theorem C19_stream (ms : List (List Bytes)) (rest : Bytes) :
    ∀ (chunks : List Bytes), (∀ m ∈ ms, m ≠ []) → (∀ m ∈ ms, ∀ p ∈ m, p.length < 2 ^ 64) →
      chunks.flatten = (ms.map encodeMultipart).flatten ++ rest → recvN ms.length chunks = .ok (ms, rest) := by
  induction ms with
  | nil => intro chunks _ _ h; exact congrArg (fun r => Except.ok ([], r)) h
  | cons m ms ih =>
    intro chunks hne hlen h
    obtain ⟨cs1, h1, e⟩ := recvMultipart_roundtrip m ((ms.map encodeMultipart).flatten ++ rest) chunks
      (hne m List.mem_cons_self) (hlen m List.mem_cons_self) (by rw [h, List.map_cons, List.flatten_cons, List.append_assoc])
    have := ih cs1 (fun m' hm' => hne m' (List.mem_cons_of_mem _ hm')) (fun m' hm' => hlen m' (List.mem_cons_of_mem _ hm')) e
    simp only [List.length_cons, recvN, h1, this]

/-- what the writes still to come look like when every sender writes its message in one piece -/
def WholePending (msgs : List (List Bytes)) (pending : List (List Bytes)) : Prop :=
  ∀ j, pending[j]? = some [encodeMultipart (msgs.getD j [])] ∨ pending[j]? = some [] ∨ pending[j]? = none

theorem wire_whole (msgs : List (List Bytes)) : ∀ (sched : List Nat) (pending : List (List Bytes)), WholePending msgs pending →
    ∃ order : List Nat, wire pending sched = (order.map fun i => encodeMultipart (msgs.getD i [])).flatten := by
  intro sched
  induction sched with
  | nil => intro _ _; exact ⟨[], rfl⟩
  | cons i rest ih =>
    intro pending hw
    rcases hw i with h | h | h
    · -- sender i writes its whole message now and has nothing left
      have hw' : WholePending msgs (pending.set i []) := fun j => by
        by_cases hj : i = j
        · subst hj
          exact Or.inr (Or.inl (List.getElem?_set_self (List.getElem?_eq_some_iff.1 h).1))
        · rw [List.getElem?_set_ne hj]; exact hw j
      obtain ⟨order, ho⟩ := ih _ hw'
      exact ⟨i :: order, by rw [wire_write rest h, ho]; rfl⟩
    · obtain ⟨order, ho⟩ := ih pending hw
      exact ⟨order, (wire_skip rest (Or.inl h)).trans ho⟩
    · obtain ⟨order, ho⟩ := ih pending hw
      exact ⟨order, (wire_skip rest (Or.inr h)).trans ho⟩

/-- **Concurrent senders.**  However many tasks send on one socket and in whatever order the scheduler lets them write, the
bytes on the wire are a concatenation of WHOLE encoded messages (so by `C19_stream` the peer reads exactly those messages) –
because `send_multipart` hands each message to the transport in one write. -/
theorem C19_concurrent_senders (msgs : List (List Bytes)) (sched : List Nat) :
    ∃ order : List Nat, wire (msgs.map (senderWrites true)) sched = (order.map fun i => encodeMultipart (msgs.getD i [])).flatten := by
  apply wire_whole
  intro j
  rcases Nat.lt_or_ge j msgs.length with hl | hl
  · left
    simp [senderWrites, List.getElem?_map, List.getElem?_eq_getElem hl, List.getD_eq_getElem?_getD]
  · right; right
    simp [hl]

/-- the code as it is has that shape (flag extracted from `ZmqSocket.send_multipart` on every run) -/
theorem C19_concurrent_senders_current (msgs : List (List Bytes)) (sched : List Nat) :
    Current.oneWrite = true ∧
    ∃ order : List Nat, wire (msgs.map (senderWrites Current.oneWrite)) sched = (order.map fun i => encodeMultipart (msgs.getD i [])).flatten :=
  ⟨rfl, C19_concurrent_senders msgs sched⟩

/-- with one write per frame two senders' frames interleave: the peer reads two messages that were never sent -/
theorem C19_regress_frame_by_frame_writes :
    (recvN 2 [wire ([[[1], [2]], [[3], [4]]].map (senderWrites false)) [0, 1, 0, 1]]).toOption = some ([[[1], [3], [2]], [[4]]], []) ∧
    (recvN 2 [wire ([[[1], [2]], [[3], [4]]].map (senderWrites true)) [0, 1, 0, 1]]).toOption = some ([[[1], [2]], [[3], [4]]], []) := by
  decide

/-! ## (f) the ZMTP greeting -/

/-- **The handshake never reads past the greeting** and is independent of how TCP fragments it: given 64 greeting bytes
followed by anything, an accepting handshake leaves exactly what follows the greeting unread, has written the kernel's
own greeting and the READY command, and a handshake that does not look at the bytes (`validate = false`) accepts. -/
theorem C19_handshake_reads_exactly (validate : Bool) (ty g rest : Bytes) (chunks : List Bytes)
    (hg : g.length = 64) (hc : chunks.flatten = g ++ rest) :
    ((handshake validate ty chunks).status = .ok →
        (handshake validate ty chunks).rest.flatten = rest ∧
        (handshake validate ty chunks).written = HS_WRITES.flatten ++ readyCmd ty) ∧
    (validate = false → (handshake validate ty chunks).status = .ok) := by
  refine ⟨fun hok => ?_, fun hv => ?_⟩
  · obtain ⟨_, hw, hr⟩ := handshake_ok validate ty chunks hok
    exact ⟨by rw [hr, hc]; exact List.drop_left' hg, hw⟩
  · obtain ⟨d0, d1, d2, rfl, h0, h1, h2⟩ := split64 g hg
    exact (handshake_accepts_iff validate ty d0 d1 d2 rest chunks h0 h1 h2 hc).2 (Or.inl hv)

/-- **The handshake accepts exactly the greetings of the grammar** – for a handshake that validates (signature bytes,
major version ≥ 3, mechanism NULL), under every fragmentation. -/
theorem C19_handshake_exact (ty g rest : Bytes) (chunks : List Bytes) (hg : g.length = 64) (hc : chunks.flatten = g ++ rest) :
    (handshake true ty chunks).status = .ok ↔ ValidGreeting g := by
  obtain ⟨d0, d1, d2, rfl, h0, h1, h2⟩ := split64 g hg
  rw [← stages_iff_valid d0 d1 d2 h0 h1 h2, handshake_accepts_iff true ty d0 d1 d2 rest chunks h0 h1 h2 hc]
  exact ⟨fun h => h.resolve_left Bool.noConfusion, Or.inr⟩

/-- a stream that ends inside the greeting is never accepted -/
theorem C19_handshake_truncated (validate : Bool) (ty : Bytes) (chunks : List Bytes) (h : chunks.flatten.length < 64) :
    (handshake validate ty chunks).status ≠ .ok :=
  fun hok => Nat.not_le_of_lt h (handshake_ok validate ty chunks hok).1

/-- **The code as it is** accepts every greeting of the grammar (whatever it validates) … -/
theorem C19_handshake_partial (ty g rest : Bytes) (chunks : List Bytes) (hg : g.length = 64)
    (hc : chunks.flatten = g ++ rest) (hv : ValidGreeting g) :
    (handshake Current.validate ty chunks).status = .ok ∧ (handshake Current.validate ty chunks).rest.flatten = rest := by
  have hok : (handshake Current.validate ty chunks).status = .ok := by
    cases Current.validate
    · exact (C19_handshake_reads_exactly false ty g rest chunks hg hc).2 rfl
    · exact (C19_handshake_exact ty g rest chunks hg hc).2 hv
  exact ⟨hok, ((C19_handshake_reads_exactly _ ty g rest chunks hg hc).1 hok).1⟩

/-- … what the kernel itself writes is a greeting of the grammar … -/
theorem C19_own_greeting_valid : ValidGreeting HS_WRITES.flatten :=
  ⟨[0, 0, 0, 0, 0, 0, 0, 1], 3, 0, List.replicate 32 0, rfl, rfl, Nat.le_refl 3, rfl⟩

/-- … and its READY command (for the three socket types the kernel uses) is a well-formed command frame that its own
receive routine parses and skips: a message following it is received intact. -/
theorem C19_ready_skipped (ty : Bytes) (hty : ty ∈ [HS_ROUTER, [82, 69, 80], [80, 85, 66]])
    (ps : List Bytes) (rest : Bytes) (chunks : List Bytes)
    (hne : ps ≠ []) (hlen : ∀ p ∈ ps, p.length < 2 ^ 64) (hc : chunks.flatten = readyCmd ty ++ encodeMultipart ps ++ rest) :
    flatRes (recvMultipart chunks) = .ok (ps, rest) := by
  have hb := (by decide : ∀ ty ∈ [HS_ROUTER, [82, 69, 80], [80, 85, 66]],
    (cmdBody HS_CMD (readyParams ty)).length ≤ CMD_SHORT_MAX ∧ cmdOk (cmdBody HS_CMD (readyParams ty)) = true) ty hty
  rw [readyCmd, encodeCmd_short _ _ hb.1] at hc
  exact recvMultipart_after_cmd _ hb.2 ps rest chunks hne hlen hc

/-- **The full statement fails for the code as it is**: `handshake` does not look at the bytes it reads, so 64 zero
bytes – no ZMTP signature, version 0, no mechanism – are accepted. -/
theorem C19_handshake_cex :
    Current.validate = false ∧ (handshake Current.validate HS_ROUTER [List.replicate 64 0]).status = .ok ∧
    ¬ ValidGreeting (List.replicate 64 0) := by
  refine ⟨by decide, by decide, ?_⟩
  rintro ⟨pad, _, _, _, hg, _⟩
  exact absurd (List.cons.inj hg).1 (by decide)

/-! ## (g) wire messages: identities, delimiter, signature, four frames -/

/-- **deserialize ∘ serialize = id** for every identity list (none of which is the delimiter itself), any number of
frames ≥ 4 (extra buffers included) of which the first four decode: the delimiter may sit at any position. -/
theorem C19_deserialize_serialize (sign : List Bytes → Bytes) (jsonOk : Bytes → Bool) (ids frames : List Bytes)
    (hid : DELIM ∉ ids) (hlen : 4 ≤ frames.length) (hj : ∀ f ∈ frames.take 4, jsonOk f = true) :
    deserialize sign jsonOk (serialize sign ids frames) = .ok (ids, frames) :=
  (deserialize_ok_iff sign jsonOk _ ids frames).2 ⟨rfl, hid, hlen, hj⟩

/-- a frame list without the delimiter is rejected -/
theorem C19_deserialize_no_delim (sign : List Bytes → Bytes) (jsonOk : Bytes → Bool) (wire : List Bytes) (h : DELIM ∉ wire) :
    deserialize sign jsonOk wire = .error .noDelim := by
  unfold deserialize; rw [splitDelim_none wire h]

/-- **Only well-formed, correctly signed messages are accepted**: whatever `deserialize` accepts is
`identities ++ [DELIM, MAC(frames)] ++ frames` with at least four frames, the first four decodable, and the delimiter not
among the identities – so a list without delimiter, with fewer than four frames after the signature, with one of the four
that does not decode or with a signature that is not the MAC of ALL the frames is rejected. -/
theorem C19_deserialize_accepts_only (sign : List Bytes → Bytes) (jsonOk : Bytes → Bool) (wire ids frames : List Bytes)
    (h : deserialize sign jsonOk wire = .ok (ids, frames)) :
    wire = serialize sign ids frames ∧ DELIM ∉ ids ∧ 4 ≤ frames.length ∧ ∀ f ∈ frames.take 4, jsonOk f = true :=
  (deserialize_ok_iff sign jsonOk wire ids frames).1 h

/-- fewer than four frames after the signature (or no signature frame at all): rejected -/
theorem C19_deserialize_short (sign : List Bytes → Bytes) (jsonOk : Bytes → Bool) (ids after : List Bytes)
    (hid : DELIM ∉ ids) (h : after.length < 5) :
    ∃ e, deserialize sign jsonOk (ids ++ DELIM :: after) = .error e := by
  rw [deserialize, splitDelim_serial ids after hid]
  cases after with
  | nil => exact ⟨_, rfl⟩
  | cons sg frames =>
    simp only
    cases hd : decodeFrames jsonOk 4 frames with
    | some e => exact ⟨e, rfl⟩
    | none =>
      have := ((decodeFrames_eq_none_iff jsonOk 4 frames).1 hd).1
      rw [List.length_cons] at h
      omega

/-- non-vacuity: two identities, a delimiter, and a second delimiter among the extra buffers -/
example : deserialize (fun _ => [7]) (fun _ => true) [[1], [2], DELIM, [7], [3], [4], [5], [6], DELIM] =
    .ok ([[1], [2]], [[3], [4], [5], [6], DELIM]) := by rfl

/-! ## (h) every message type of the shell channel -/

/-- the names in the tables read off `shell_handler` / `control_listen` pair every request type with ITS reply type -/
theorem C19_reply_table_matching : ∀ p ∈ SHELL_REPLY_TABLE ++ CONTROL_REPLY_TABLE, p.2 = matchingReply p.1 := by decide

/-- the shape the model of the handlers relies on, read off the source on every run: every one-reply branch sends exactly
once on the requesting socket with the request's identities and header, busy is sent first and idle last, the silent
branches send nothing, the send sites of the execute branch are the ones `shellHandle` has, the control reply queues the
shutdown and the parse of an `is_complete_request` is under `except Exception`. -/
theorem C19_handler_shape_tied :
    SHELL_BRANCH_SHAPE_OK = true ∧ SHELL_BUSY_FIRST = true ∧ SHELL_IDLE_LAST = true ∧
    SHELL_SILENT = [N_comm_close, N_comm_msg, N_comm_open] ∧
    EXEC_SENDS = [(N_execute_input, false, true), (N_execute_reply, true, true), (N_error, false, true), (N_status, false, true),
                  (N_execute_result, false, true), (N_execute_reply, true, true)] ∧
    CONTROL_REPLY_QUEUES_SHUTDOWN = true ∧ Current.catchAll = true :=
  ⟨rfl, rfl, rfl, rfl, rfl, rfl, rfl⟩

def RepliedShell (m : Bytes) : Bool := (SHELL_REPLY_TABLE.lookup m).isSome

/-- what one handled shell request must look like on the wire -/
structure ShellOK (ids : List Bytes) (i : Info) (outs : List KOut) : Prop where
  busy : outs.head? = some (pub i N_status .busy)
  idle : outs.getLast? = some (pub i N_status .idle)
  parent : ∀ o ∈ outs, o.parent = i.header
  chans : ∀ o ∈ outs, o.chan = .shell ∨ (o.chan = .iopub ∧ o.idents = [])
  reply : (outs.filter (fun o => o.chan = .shell)).map (fun o => (o.mtype, o.idents)) =
            if RepliedShell i.mtype then [(matchingReply i.mtype, ids)] else []

/-- **Every request type**: a handled shell request – whatever its type, whatever the interpreter or the parser did – is
bracketed by busy … idle on iopub, every emission carries the request's header as parent, and there is exactly one message
on the requesting socket, of the matching `*_reply` type and addressed to the request's identities, when the type is one
the kernel answers; none for `comm_*` and for unknown types. -/
theorem C19_shell_every_type (catchAll : Bool) (run : Nat → CellResult) (s : KState) (ids : List Bytes) (i : Info)
    (hc : (shellHandle catchAll run s ids i).crashed = false) :
    ShellOK ids i (shellHandle catchAll run s ids i).outs := by
  obtain ⟨he, hb, hi⟩ := shellHandle_emits catchAll run s ids i hc
  refine ⟨hb, hi, fun o ho => (he.mem o ho).1, fun o ho => (he.mem o ho).2, he.replies.trans ?_⟩
  unfold RepliedShell
  cases hl : SHELL_REPLY_TABLE.lookup i.mtype with
  | none => rfl
  | some ty =>
    have hm : ty = matchingReply i.mtype :=
      C19_reply_table_matching (i.mtype, ty) (List.mem_append_left _ (lookup_mem _ _ _ hl))
    rw [hm]; rfl

/-- line numbers the parser reports lie inside the source (assumption about CPython, which the harness checks on every code
string it generates) -/
def LinenoSane (code : List Nat) : ParseOutcome → Prop
  | .ok => True
  | .exc _ _ none => True
  | .exc _ _ (some none) => False
  | .exc _ _ (some (some n)) => n ≤ (splitNl code).length

/-- **`is_complete_request` is total over the parse outcomes**: parsed → complete / incomplete (indent of the last line);
ANY exception whose text is not an end-of-input message – a SyntaxError as well as a RecursionError, MemoryError or
UnicodeEncodeError from the parser – → invalid; an end-of-input message → incomplete.  Never an exception out of the
handler when every exception is caught (the code as it is) and the reported line number is sane (`LinenoSane`). -/
theorem C19_is_complete_total (code : List Nat) (p : ParseOutcome) (hl : LinenoSane code p) :
    isComplete true code p ≠ .crash ∧
    (p = .ok → isComplete true code p = if lastIndent code = 0 then .complete else .incomplete (lastIndent code)) ∧
    (∀ sy ln, p = .exc sy false ln → isComplete true code p = .invalid) ∧
    (∀ sy ln, p = .exc sy true ln → ∃ n, isComplete true code p = .incomplete n ∧ lastIndent code ≤ n) := by
  have h4 : ∀ sy ln, p = .exc sy true ln → ∃ n, isComplete true code p = .incomplete n ∧ lastIndent code ≤ n := by
    rintro sy ln rfl
    exact isComplete_eof code sy ln (fun e => by rw [e] at hl; exact hl) (fun n e => by rw [e] at hl; exact hl)
  refine ⟨?_, fun hp => hp ▸ isComplete_ok true code, fun sy ln hp => hp ▸ isComplete_not_eof code sy ln, h4⟩
  match p, h4 with
  | .ok, _ => rw [isComplete_ok]; split <;> exact fun h => nomatch h
  | .exc sy false ln, _ => exact fun h => nomatch h
  | .exc sy true ln, h4 =>
    obtain ⟨n, e, _⟩ := h4 sy ln rfl
    rw [e]; exact fun h => nomatch h

/-- so the handler of the code as it is never lets an exception of the parser escape … -/
theorem C19_shell_never_crashes (run : Nat → CellResult) (s : KState) (ids : List Bytes) (i : Info)
    (hl : LinenoSane i.code i.parse) : (shellHandle Current.catchAll run s ids i).crashed = false := by
  have hc : Current.catchAll = true := by decide
  rw [hc]
  by_cases he : i.mtype = N_execute_request
  · rw [shellHandle_exec _ _ _ _ _ he]
  · by_cases hi : i.mtype = N_is_complete_request
    · rw [shellHandle_isc _ _ _ _ _ hi]
      cases hq : isComplete true i.code i.parse
      case crash => exact absurd hq (C19_is_complete_total i.code i.parse hl).1
      all_goals rfl
    · rw [shellHandle_tbl _ _ _ _ _ he hi]

/-- … whereas a handler for SyntaxError only lets a RecursionError through: busy is broadcast, then no reply and no idle -/
theorem C19_regress_narrow_except (run : Nat → CellResult) (s : KState) (ids : List Bytes) :
    let i : Info := { header := 1, mtype := N_is_complete_request, parse := .exc false false none }
    (shellHandle false run s ids i).crashed = true ∧ (shellHandle false run s ids i).outs = [pub i N_status .busy] ∧
    (shellHandle true run s ids i).outs = [pub i N_status .busy, rep .shell ids i N_is_complete_reply .invalid, pub i N_status .idle] := by
  intro i
  rw [shellHandle_isc _ _ _ _ _ rfl, shellHandle_isc _ _ _ _ _ rfl]
  exact ⟨rfl, rfl, rfl⟩

/-- the indentation loop computes the leading blanks of the text after the last newline -/
example : lastIndent [105, 102, 32, 120, 58, 10, 32, 32, 121] = 2 ∧ specIndent [105, 102, 32, 120, 58, 10, 32, 32, 121] = 2 := by decide

/-! ## (i) control, heartbeat -/

/-- **Control channel**: a request of a type in the control table gets exactly one reply, of the matching type, on the
control socket, addressed to the request's identities with its header as parent – and queues the session shutdown; any
other type gets nothing. -/
theorem C19_control_reply (ids : List Bytes) (i : Info) :
    (i.mtype = N_shutdown_request →
      controlHandle ids i = ([rep .control ids i (matchingReply i.mtype)], true)) ∧
    (i.mtype ≠ N_shutdown_request → controlHandle ids i = ([], false)) := by
  constructor
  · intro h
    rw [controlHandle, h]
    rfl
  · intro h
    have hl : CONTROL_REPLY_TABLE.lookup i.mtype = none := by
      show List.lookup i.mtype [(N_shutdown_request, N_shutdown_reply)] = none
      rw [List.lookup_cons, beq_eq_false_iff_ne.2 h]
      rfl
    rw [controlHandle, hl]

/-- **Heartbeat**: the echo of a REQ ping (`[empty delimiter, payload]`, however fragmented) is byte-identical to the ping -/
theorem C19_heartbeat_echo (m rest : Bytes) (chunks : List Bytes) (hm : m.length < 2 ^ 64)
    (hc : chunks.flatten = encodeMultipart [[], m] ++ rest) :
    ∃ cs', hbEcho chunks = .ok (encodeMultipart [[], m], cs') ∧ cs'.flatten = rest := by
  obtain ⟨cs, h, hr⟩ := recvSingle_roundtrip m rest chunks hm (by rw [hc, encodeSingle_eq])
  exact ⟨cs, by rw [hbEcho, h, ← encodeSingle_eq], hr⟩

/-! ## (j) the session: every sequence of messages on every channel, and its end -/

/-- what a history entry must look like -/
def EntryOK (E : Env) (t : Entry) : Prop :=
  (t.before.up = false → t.outs = [] ∧ t.after.up = false) ∧
  (t.before.up = true → (t.ch = .iopub ∨ t.ch = .stdin ∨ t.ch = .hb) → t.outs = [] ∧ t.after.up = true) ∧
  (t.before.up = true → (t.ch = .shell ∨ t.ch = .control) →
    match deserialize E.sign E.jsonOk t.wire with
    | .error _ => t.outs = [] ∧ t.after.up = false ∧ t.after.k = t.before.k       -- never executed, never answered
    | .ok (ids, frames) =>
      if t.ch = .shell then
        (shellHandle E.catchAll E.run t.before.k ids (E.info frames)).crashed = false →
          ShellOK ids (E.info frames) t.outs ∧ t.after.up = true
      else
        t.after.k = t.before.k ∧
        ((E.info frames).mtype = N_shutdown_request →
          t.outs = [rep .control ids (E.info frames) N_shutdown_reply] ∧ t.after.up = false) ∧
        ((E.info frames).mtype ≠ N_shutdown_request → t.outs = [] ∧ t.after.up = true))

theorem chanStep_ok (E : Env) (s : Sess) (ch : Chan) (w : List Bytes) (h : SessInv s) :
    EntryOK E ⟨s, ch, w, (chanStep E s ch w).2, (chanStep E s ch w).1⟩ := by
  refine ⟨fun hu => ?_, fun hu hch => ?_, fun hu hch => ?_⟩
  · rw [chanStep_down E s ch w hu]; exact ⟨rfl, hu⟩
  · rw [chanStep_other E s ch w hch]; exact ⟨rfl, hu⟩
  · dsimp only at hu hch ⊢
    rcases hch with rfl | rfl
    · rw [chanStep_shell E s w hu]
      cases deserialize E.sign E.jsonOk w with
      | error e => exact ⟨rfl, hkStep_shutdown_down s h, hkStep_k s _⟩
      | ok p =>
        obtain ⟨ids, frames⟩ := p
        dsimp only
        rw [if_pos rfl]
        intro hc
        rw [hc]
        exact ⟨C19_shell_every_type _ _ _ _ _ hc, hu⟩
    · rw [chanStep_control E s w hu]
      cases deserialize E.sign E.jsonOk w with
      | error e => exact ⟨rfl, hkStep_shutdown_down s h, hkStep_k s _⟩
      | ok p =>
        obtain ⟨ids, frames⟩ := p
        dsimp only
        rw [if_neg (by decide)]
        obtain ⟨h1, h2⟩ := C19_control_reply ids (E.info frames)
        refine ⟨?_, fun ht => ?_, fun ht => ?_⟩
        · split
          · exact hkStep_k s _
          · rfl
        · rw [h1 ht, ht]
          exact ⟨rfl, hkStep_shutdown_down s h⟩
        · rw [h2 ht]
          exact ⟨rfl, hu⟩

/-- **Every sequence of messages.**  For ANY sequence of multipart messages arriving on the shell, control, iopub and stdin
connections of a session, every entry of the history is as it must be: a message that does not deserialize (no delimiter,
too few frames, undecodable frame, wrong signature) is never executed and never answered (and ends the session, as coded);
every accepted shell request whose handler lets no exception out (`C19_shell_never_crashes`) gets its busy … idle bracket
and exactly one reply of the matching type addressed to its own identities (none for `comm_*` / unknown types);
`shutdown_request` on control gets exactly one `shutdown_reply` on control and ends the session, other control types and
everything on iopub / stdin get nothing; after the end nothing is sent. -/
theorem C19_session_every_sequence (E : Env) (msgs : List (Chan × List Bytes)) (s : Sess) (h : SessInv s) :
    ∀ t ∈ trace E s msgs, EntryOK E t := by
  induction msgs generalizing s with
  | nil => simp [trace]
  | cons m rest ih =>
    obtain ⟨ch, w⟩ := m
    intro t ht
    simp only [trace, List.mem_cons] at ht
    rcases ht with rfl | ht
    · exact chanStep_ok E s ch w h
    · exact ih _ (chanStep_inv E s ch w h) t ht

/-- **Execution counter over every sequence**: after any sequence of messages on any channels the counter has advanced by
exactly the number of accepted `execute_request`s with `store_history` handled while the session was up – rejected
messages, every other type (known, `comm_*`, unknown), and everything on the other channels leave it alone. -/
theorem C19_session_counter (E : Env) (msgs : List (Chan × List Bytes)) (s : Sess) :
    (finalSess E s msgs).k.count = s.k.count + ((trace E s msgs).filter (countsExecute E)).length := by
  induction msgs generalizing s with
  | nil => rfl
  | cons m rest ih =>
    obtain ⟨ch, w⟩ := m
    rw [finalSess, trace, List.filter_cons, ih, chanStep_count E s ch w]
    cases countsExecute E ⟨s, ch, w, (chanStep E s ch w).2, (chanStep E s ch w).1⟩
    · rfl
    · exact Nat.add_right_comm ..

/-! ## (k) shutdown ends the session exactly once -/

/-- **Shutdown ends the session exactly once.**  Whatever is put on the housekeeping queue (registrations, EOFs of
connections, stdout, any number of `shutdown` messages from the control channel, from listeners that met an exception and
from the start-up timeout) and however often `session_shutdown()` is called from outside, in any order: the body of
`session_shutdown` (delete the context, close the servers, cancel the tasks) has run exactly once if the session is down
and not at all if it is up; and one `shutdown` message or one outside call anywhere in the sequence is enough to end it. -/
theorem C19_shutdown_once (evs : List SessEv) :
    (sessRun {} evs).shutdowns = (if (sessRun {} evs).up then 0 else 1) ∧
    ((SessEv.hk .shutdown ∈ evs ∨ SessEv.external ∈ evs) → (sessRun {} evs).up = false ∧ (sessRun {} evs).shutdowns = 1) := by
  have inv (evs : List SessEv) : SessInv (sessRun {} evs) :=
    List.foldlRecOn evs sessEv ⟨nofun, rfl⟩ fun s hs e _ => sessEv_inv s e hs
  refine ⟨(inv evs).2, fun hm => ?_⟩
  have hd : (sessRun {} evs).up = false := by
    obtain ⟨e, he, hmem⟩ : ∃ e, (e = SessEv.hk .shutdown ∨ e = SessEv.external) ∧ e ∈ evs :=
      hm.elim (fun h => ⟨_, Or.inl rfl, h⟩) (fun h => ⟨_, Or.inr rfl, h⟩)
    obtain ⟨pre, post, rfl⟩ := List.append_of_mem hmem
    rw [sessRun, List.foldl_append, List.foldl_cons]
    -- the invariant holds up to the event, the event ends the session, and it stays ended
    refine List.foldlRecOn (motive := (·.up = false)) post sessEv ?_ fun s hs e _ => sessEv_down_stays s e hs
    rcases he with rfl | rfl
    · exact hkStep_shutdown_down _ (inv pre)
    · exact (sessionShutdown_inv _ (inv pre)).2
  exact ⟨hd, by rw [(inv evs).2, hd]; rfl⟩

/-- the same at the level of messages: however many shutdown requests, bad messages and crashes a session meets, its end
happens once, and afterwards it stays down -/
theorem C19_session_ends_once (E : Env) (msgs : List (Chan × List Bytes)) (s : Sess) (h : SessInv s) :
    SessInv (finalSess E s msgs) ∧ (s.up = false → (finalSess E s msgs).up = false) := by
  induction msgs generalizing s with
  | nil => exact ⟨h, fun hu => hu⟩
  | cons m rest ih =>
    obtain ⟨ch, w⟩ := m
    simp only [finalSess]
    obtain ⟨i1, i2⟩ := ih _ (chanStep_inv E s ch w h)
    refine ⟨i1, fun hu => i2 ?_⟩
    rw [chanStep_down E s ch w hu]; exact hu

/-- non-vacuity of the session theorems: the initial state satisfies the invariant -/
example : SessInv ({} : Sess) := ⟨nofun, rfl⟩

end PsModel.C19
