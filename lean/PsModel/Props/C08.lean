import PsModel.Lemmas.C08
/-!
# C08 – property theorems: event, MQTT and webhook triggers deliver each message exactly once

`Legacy.exec units s` and `New.exec fl fs s` run an ARBITRARY schedule `s` (any finite interleaving of occurrences
handed over by Home Assistant, dequeue / callback steps of every trigger, emissions and terminations of runs) from the
state produced by the subscription code.  `Spec.expected d log` = the occurrences of `log` that qualify for decorator
`d`, in order, each mapped to the keyword dictionary of its run.
-/
namespace PsModel.C08

/-! ## legacy subsystem -/

/-- **Queue invariant, every schedule.**  At every moment, for every decorator: the runs already started followed by
the runs still owed by the messages waiting in the trigger's queue are exactly the qualifying occurrences so far, in
order – nothing is lost, duplicated, reordered or invented by any interleaving of listeners and watch loops. -/
theorem C08_legacy_invariant (units : List Legacy.LUnit) (hok : Legacy.UnitsOK units) (s : List Step)
    (u : Nat) (k : Kind) (d : Dec) (hd : Legacy.unitDec units u k = some d) :
    Legacy.startedOf (Legacy.exec units s) u k ++ Legacy.pendingList d k ((Legacy.exec units s).queues u)
      = Spec.expected d (Legacy.exec units s).log :=
  (Legacy.inv_exec units hok s).owed u k d hd

/-- **Exactly once, in order (legacy).**  Once the queues have been worked off, the runs started for a decorator are
precisely its qualifying occurrences, in firing order, each exactly once, with the specified keywords. -/
theorem C08_legacy (units : List Legacy.LUnit) (hok : Legacy.UnitsOK units) (s : List Step)
    (hq : Legacy.Quiescent (Legacy.exec units s))
    (u : Nat) (k : Kind) (d : Dec) (hd : Legacy.unitDec units u k = some d) :
    Legacy.startedOf (Legacy.exec units s) u k = Spec.expected d (Legacy.exec units s).log := by
  have h := C08_legacy_invariant units hok s u k d hd
  rw [hq u] at h
  exact (List.append_nil _).symm.trans h

/-- **Safety at every instant (legacy).**  What has been started so far is always a prefix of what is due: never a
duplicate, never out of order, never a run for a non-qualifying occurrence. -/
theorem C08_legacy_prefix (units : List Legacy.LUnit) (hok : Legacy.UnitsOK units) (s : List Step)
    (u : Nat) (k : Kind) (d : Dec) (hd : Legacy.unitDec units u k = some d) :
    Legacy.startedOf (Legacy.exec units s) u k <+: Spec.expected d (Legacy.exec units s).log :=
  ⟨_, C08_legacy_invariant units hok s u k d hd⟩

/-- **No message stays queued for ever (legacy).**  Every schedule can be completed, without any further occurrence
(same log; the proof adds dequeue steps only), to a quiescent one – where by `C08_legacy` every qualifying occurrence
has its run. -/
theorem C08_legacy_complete (units : List Legacy.LUnit) (hok : Legacy.UnitsOK units) (s : List Step) :
    ∃ s', Legacy.Quiescent (Legacy.exec units (s ++ s')) ∧
      (Legacy.exec units (s ++ s')).log = (Legacy.exec units s).log := by
  obtain ⟨s', h1, h2⟩ := Legacy.drain_all units units.length (Legacy.exec units s) (Legacy.inv_exec units hok s).onUnits
  exact ⟨s', Legacy.exec_append units s s' ▸ ⟨h1, h2⟩⟩

/-- **Stacked decorators (legacy).**  `trigger_init` puts the `i`-th decorator of every kind of a function into the
function's `i`-th trigger unit – every decorator sits in exactly one slot, and a slot only holds its own kind. -/
theorem C08_legacy_units (decs : List Dec) (fs : List (List Dec)) :
    (∀ u k, Legacy.unitDec (Legacy.mkUnits decs) u k = Legacy.nthOfKind decs k u) ∧
    Legacy.UnitsOK (Legacy.mkUnits decs) ∧ Legacy.UnitsOK (Legacy.allUnits fs) :=
  ⟨Legacy.unitDec_mkUnits decs, Legacy.unitsOK_mkUnits decs, Legacy.unitsOK_allUnits fs⟩

/-- **Subscription tables (legacy).**  After start-up, a unit's queue is subscribed under a key exactly when the
unit has a decorator of that kind with that key, and no queue is subscribed twice. -/
theorem C08_legacy_tables (units : List Legacy.LUnit) (s : List Step) (u : Nat) (k : Kind) (key : String) :
    (u ∈ (Legacy.exec units s).notify k key ↔ ∃ d, Legacy.unitDec units u k = some d ∧ d.key = key) ∧
    ((Legacy.exec units s).notify k key).Nodup := by
  rw [Legacy.exec_notify]
  exact ⟨(Legacy.init_WF units).mem u k key, (Legacy.init_WF units).nodup k key⟩

/-! ## new subsystem

A decorator of the new subsystem is served iff its listener got registered at start-up (`New.registered`).  The
machine takes deviation flags: `New.Flags.preFix` is the code before the repair of finding C08-F1 (a function whose
`@webhook_trigger` names a webhook id that already has a handler FAILS to start and loses ALL its triggers),
`New.Flags.current` the repaired code (the decorators of one webhook id share one Home Assistant registration).
The `fl`-theorems hold for every flag value and speak about registered decorators; at `Flags.current` EVERY decorator
is registered (`C08_new_all_registered`), which gives the full statements `C08_new`, `C08_new_invariant_full`,
`C08_new_prefix_full`; `C08_new_regress_shared_webhook` shows the pre-fix shape deviating. -/

/-- **Callback-queue invariant, every schedule (new, every flag value).** -/
theorem C08_new_invariant (fl : New.Flags) (fs : List (List Dec)) (s : List Step) (i : Nat) (d : Dec)
    (hd : fs.flatten[i]? = some d) (hreg : New.registered fl fs i d) :
    New.startedOf (New.exec fl fs s) i ++ New.pendingList d i (New.exec fl fs s).ready
      = Spec.expected d (New.exec fl fs s).log :=
  (New.inv_exec fl fs s).owed i d hd (by rw [New.exec_listeners]; exact hreg)

/-- **Exactly once, in order (new, every flag value) – for every decorator whose function started.** -/
theorem C08_new_partial (fl : New.Flags) (fs : List (List Dec)) (s : List Step)
    (hq : New.Quiescent (New.exec fl fs s))
    (i : Nat) (d : Dec) (hd : fs.flatten[i]? = some d) (hreg : New.registered fl fs i d) :
    New.startedOf (New.exec fl fs s) i = Spec.expected d (New.exec fl fs s).log := by
  have h := C08_new_invariant fl fs s i d hd hreg
  rw [hq] at h
  exact (List.append_nil _).symm.trans h

/-- **Safety at every instant (new, every flag value).** -/
theorem C08_new_prefix (fl : New.Flags) (fs : List (List Dec)) (s : List Step) (i : Nat) (d : Dec)
    (hd : fs.flatten[i]? = some d) (hreg : New.registered fl fs i d) :
    New.startedOf (New.exec fl fs s) i <+: Spec.expected d (New.exec fl fs s).log :=
  ⟨_, C08_new_invariant fl fs s i d hd hreg⟩

/-- **Nothing is ever started for a decorator that is not registered (new, every flag value).** -/
theorem C08_new_unregistered (fl : New.Flags) (fs : List (List Dec)) (s : List Step) (i : Nat) (d : Dec)
    (hd : fs.flatten[i]? = some d) (hreg : ¬ New.registered fl fs i d) :
    New.startedOf (New.exec fl fs s) i = [] :=
  (New.inv_exec fl fs s).unregistered i d hd (by rw [New.exec_listeners]; exact hreg)

/-- **Which decorators are registered (new, every flag value).**  When all decorators of a function start
(`startDecs … = some n'`; pre-fix: when no `@webhook_trigger` id of the function is already taken), every one of them
is in the table `n'` that start returns. -/
theorem C08_new_registered_of_start (fl : New.Flags) (i0 : Nat) (f : List Dec) (n n' : Table)
    (hs : New.startDecs fl i0 f n = some n') (j : Nat) (d : Dec) (hj : f[j]? = some d) :
    (i0 + j) ∈ n' d.kind d.key :=
  New.startDecs_mem fl i0 f n n' hs j d hj

/-- **Repaired code: every decorator of every function is registered** – whatever webhook ids are shared. -/
theorem C08_new_all_registered (fs : List (List Dec)) (i : Nat) (d : Dec) (hd : fs.flatten[i]? = some d) :
    New.registered New.Flags.current fs i d := by
  have := New.setupFuncs_current_mem fs 0 Table.empty i d hd
  rw [Nat.zero_add] at this
  exact this

/-- **Listener tables of the repaired code.**  After start-up (and for ever) decorator `i` listens under a key
exactly when it is a decorator of that kind with that key – webhook ids included, several decorators per id – and
no decorator is listed twice. -/
theorem C08_new_tables (fs : List (List Dec)) (s : List Step) (i : Nat) (k : Kind) (key : String) :
    (i ∈ (New.exec New.Flags.current fs s).listeners k key ↔
      ∃ d, fs.flatten[i]? = some d ∧ d.kind = k ∧ d.key = key) ∧
    ((New.exec New.Flags.current fs s).listeners k key).Nodup := by
  rw [New.exec_listeners]
  refine ⟨⟨(New.init_WF _ fs).dec_of_mem i k key, ?_⟩, (New.init_WF _ fs).nodup k key⟩
  rintro ⟨d, hd, rfl, rfl⟩
  exact C08_new_all_registered fs i d hd

/-- **Callback-queue invariant for EVERY decorator (new, current code).** -/
theorem C08_new_invariant_full (fs : List (List Dec)) (s : List Step) (i : Nat) (d : Dec)
    (hd : fs.flatten[i]? = some d) :
    New.startedOf (New.exec New.Flags.current fs s) i ++ New.pendingList d i (New.exec New.Flags.current fs s).ready
      = Spec.expected d (New.exec New.Flags.current fs s).log :=
  C08_new_invariant _ fs s i d hd (C08_new_all_registered fs i d hd)

/-- **Exactly once, in order (new) – FULL statement**: for every decorator of every function, shared webhook ids
included, once the callbacks have run the runs started are precisely the qualifying occurrences, in order. -/
theorem C08_new (fs : List (List Dec)) (s : List Step) (hq : New.Quiescent (New.exec New.Flags.current fs s))
    (i : Nat) (d : Dec) (hd : fs.flatten[i]? = some d) :
    New.startedOf (New.exec New.Flags.current fs s) i = Spec.expected d (New.exec New.Flags.current fs s).log :=
  C08_new_partial _ fs s hq i d hd (C08_new_all_registered fs i d hd)

/-- **Safety at every instant for every decorator (new, current code).** -/
theorem C08_new_prefix_full (fs : List (List Dec)) (s : List Step) (i : Nat) (d : Dec)
    (hd : fs.flatten[i]? = some d) :
    New.startedOf (New.exec New.Flags.current fs s) i <+: Spec.expected d (New.exec New.Flags.current fs s).log :=
  ⟨_, C08_new_invariant_full fs s i d hd⟩

/-- **Regression witness of finding C08-F1 (fixed).**  Two functions use webhook id `"h"`; the second one also has
`@event_trigger("e")`.  Pre-fix shape: the event `e` qualifies for that trigger and the webhook request for both
webhook triggers, yet nothing is ever started for the second function (it failed to start).  Repaired shape: the
event starts its run and the request starts one run for EACH of the two webhook triggers – as the legacy machine
does on the same configuration. -/
theorem C08_new_regress_shared_webhook :
    let w1 : Dec := { kind := .webhook, key := "h", filt := Option.none, kwargs := [] }
    let w2 : Dec := { kind := .webhook, key := "h", filt := Option.none, kwargs := [] }
    let e2 : Dec := { kind := .event, key := "e", filt := Option.none, kwargs := [] }
    let fs := [[w1], [e2, w2]]
    let s : List Step := [.fire (.event "e" []), .fire (.webhook "h" true .dnil []), .take 0, .take 0, .take 0]
    let pre := New.exec New.Flags.preFix fs s
    let cur := New.exec New.Flags.current fs s
    (Spec.expected e2 pre.log).length = 1 ∧ (Spec.expected w2 pre.log).length = 1 ∧ pre.ready.length = 0 ∧
    New.startedOf pre 1 = [] ∧ New.startedOf pre 2 = [] ∧ (New.startedOf pre 0).length = 1 ∧
    cur.ready.length = 0 ∧ (New.startedOf cur 0).length = 1 ∧ (New.startedOf cur 1).length = 1 ∧
    (New.startedOf cur 2).length = 1 ∧
    (Legacy.startedOf (Legacy.exec (Legacy.allUnits fs) (s ++ [.take 1, .take 1])) 0 .webhook).length = 1 ∧
    (Legacy.startedOf (Legacy.exec (Legacy.allUnits fs) (s ++ [.take 1, .take 1])) 1 .event).length = 1 ∧
    (Legacy.startedOf (Legacy.exec (Legacy.allUnits fs) (s ++ [.take 1, .take 1])) 1 .webhook).length = 1 := by
  decide

/-- **No callback stays pending for ever (new).** -/
theorem C08_new_complete (fl : New.Flags) (fs : List (List Dec)) (s : List Step) :
    ∃ s', New.Quiescent (New.exec fl fs (s ++ s')) ∧ (New.exec fl fs (s ++ s')).log = (New.exec fl fs s).log := by
  obtain ⟨s', h1, h2⟩ := New.drain_all fs.flatten (New.exec fl fs s)
  exact ⟨s', New.exec_append fl fs s s' ▸ ⟨h1, h2⟩⟩

/-! ## keyword arguments, both subsystems (they share `funcArgs` / `runArgs`) -/

/-- **Keywords of a run.**  The dictionary a run receives holds, for every key, the decorator's `kwargs` value if
there is one, else the event data's, else the fixed keyword (trigger_type, event_type/topic/webhook_id, context,
payload, payload_obj when the MQTT payload is JSON, …) – and every key once. -/
theorem C08_kwargs (d : Dec) (o : Occ) (k : String) :
    (runArgs d (funcArgs o)).get k = Spec.kwLookup (Spec.fixedOf o) (Spec.dataOf o) d.kwargs k ∧
    (runArgs d (funcArgs o)).keys.Nodup := by
  have hb := fixedOf_nodup o
  rw [runArgs, funcArgs_eq]
  refine ⟨?_, Dict.nodup_update _ _ (Dict.nodup_update _ _ hb)⟩
  rw [Dict.get_update, Dict.get_update, Dict.get_eq_lastOf _ hb]
  rfl

/-- **Webhook form payload**: every form field once, with its first value. -/
theorem C08_form (form : Dict) (k : String) :
    (formDict form).get k = form.get k ∧ (formDict form).keys.Nodup := by
  refine ⟨?_, Dict.nodup_foldl_set _ form [] List.nodup_nil⟩
  rw [formDict, Dict.form_fold form form [] (fun kv h => Dict.get_isSome_of_mem form kv h)]
  split
  · rfl
  · next h => exact (Dict.get_none_of_not_mem form k h).symm

/-! ## runs are independent tasks -/

/-- **Independence (legacy).**  Whether, when and in which order earlier runs finish has no influence on anything else:
deleting every termination step from any schedule (all runs sleep for ever) leaves queues, started runs, their
keywords and contexts, the log and the emissions unchanged – the watch loop never waits for a run. -/
theorem C08_independent_legacy (units : List Legacy.LUnit) (s : List Step) :
    Legacy.eraseFin (Legacy.exec units s) = Legacy.exec units (s.filter Legacy.notFinish) :=
  eraseFin_foldl Legacy.eraseFin (Legacy.step units) (Legacy.eraseFin_step units) (fun _ _ => rfl) s _

/-- **Independence (new).** -/
theorem C08_independent_new (fl : New.Flags) (fs : List (List Dec)) (s : List Step) :
    New.eraseFin (New.exec fl fs s) = New.exec fl fs (s.filter Legacy.notFinish) :=
  eraseFin_foldl New.eraseFin (New.step fs.flatten) (New.eraseFin_step fs.flatten) (fun _ _ => rfl) s _

/-! ## event.fire and contexts -/

/-- **`event.fire`.**  The emitted event carries exactly the given parameters and the right context: an explicit
`context=` that is a Context becomes the event's context and is not a parameter; otherwise every parameter is kept
and the context is the one stored for the running task. -/
theorem C08_fire (t2c : T2C) (task : Nat) (ek : EmitKind) (name : String) (kw : Dict) (hkw : kw.keys.Nodup) :
    (eventFire t2c task ek name kw).name = name ∧
    (∀ k, (eventFire t2c task ek name kw).data.get k = Spec.fireData kw k) ∧
    (eventFire t2c task ek name kw).ctx = Spec.fireCtx kw (t2c.get task) := by
  refine ⟨?_, fun k => ?_, eventFire_ctx t2c task ek name kw⟩
  · unfold eventFire
    split <;> rfl
  · unfold eventFire Spec.fireData
    cases kw.get "context" with
    | none => rfl
    | some v =>
      cases v with
      | ctx c => exact Dict.get_erase kw hkw "context" k
      | _ => rfl

/-- **Parent contexts (legacy).**  In every reachable state every started run `r` has its own context stored for its
task; its parent is the id of the Context its own `context` keyword holds (the occurrence's, unless the event data or
the decorator's `kwargs` override that key; no parent when the keyword holds no Context); and everything the run emits
without an explicit context – events, state changes, service calls – carries the run's context. -/
theorem C08_parent_legacy (units : List Legacy.LUnit) (s : List Step) (r : Nat) (run : Run)
    (hr : (Legacy.exec units s).started[r]? = some run) (ek : EmitKind) (name : String) (kw : Dict) :
    run.ctx.parent = Spec.parentOf run.args ∧
    (eventFire (Legacy.exec units s).t2c r ek name kw).ctx = Spec.fireCtx kw (some run.ctx) :=
  (Legacy.ctxInv_exec units s).fire hr ek name kw

/-- **Parent contexts (new).** -/
theorem C08_parent_new (fl : New.Flags) (fs : List (List Dec)) (s : List Step) (r : Nat) (run : Run)
    (hr : (New.exec fl fs s).started[r]? = some run) (ek : EmitKind) (name : String) (kw : Dict) :
    run.ctx.parent = Spec.parentOf run.args ∧
    (eventFire (New.exec fl fs s).t2c r ek name kw).ctx = Spec.fireCtx kw (some run.ctx) :=
  (New.ctxInv_exec fl fs s).fire hr ek name kw

/-! ## non-vacuity -/

/-- a configuration with a filter, stacked decorators of one kind and a mixed unit; a schedule with interleaved
occurrences, dequeues and an emission; the hypotheses of the theorems above are satisfiable and the result is not
empty -/
example :
    let f : Dict → Option Bool := fun a => match a.get "x" with | some (.int n) => some (decide (n > 3)) | _ => Option.none
    let d0 : Dec := { kind := .event, key := "e", filt := some f, kwargs := [("tag", .int 0)] }
    let d1 : Dec := { kind := .event, key := "e", filt := Option.none, kwargs := [] }
    let d2 : Dec := { kind := .mqtt, key := "t", filt := Option.none, kwargs := [] }
    let units := Legacy.allUnits [[d0, d1, d2]]
    let s : List Step := [.fire (.event "e" [("x", .int 5)]), .take 1, .fire (.event "e" [("x", .int 1)]),
                          .fire (.mqtt "t" "t" "p" 0 false Option.none), .take 0, .take 0, .take 0, .take 1,
                          .emit 0 .event "e" [("x", .int 9)], .take 0, .take 1, .finish 0]
    (Legacy.startedOf (Legacy.exec units s) 0 .event).length = 2 ∧
    (Legacy.startedOf (Legacy.exec units s) 1 .event).length = 3 ∧
    (Legacy.startedOf (Legacy.exec units s) 0 .mqtt).length = 1 ∧
    (New.startedOf (New.exec New.Flags.current [[d0, d1, d2]] s) 0).length = 2 ∧
    (New.startedOf (New.exec New.Flags.preFix [[d0, d1, d2]] s) 0).length = 2 := by
  decide

/-- non-vacuity of the full statement with a shared webhook id: three decorators on id `"h"` in two functions, two
requests, a quiescent schedule – each decorator gets both requests, in order -/
example :
    let w : Nat → Dec := fun t => { kind := .webhook, key := "h", filt := Option.none, kwargs := [("tag", .int t)] }
    let fs := [[w 0, w 1], [w 2]]
    let s : List Step := [.fire (.webhook "h" true (.dcons "a" (.int 1) .dnil) []), .take 0,
                          .fire (.webhook "h" false .none [("a", .str "2")]), .take 0, .take 0, .take 0, .take 0, .take 0]
    (New.exec New.Flags.current fs s).ready.length = 0 ∧
    (New.startedOf (New.exec New.Flags.current fs s) 0).length = 2 ∧
    (New.startedOf (New.exec New.Flags.current fs s) 1).length = 2 ∧
    (New.startedOf (New.exec New.Flags.current fs s) 2).length = 2 ∧
    (New.exec New.Flags.current fs s).listeners .webhook "h" = [0, 1, 2] := by
  decide

end PsModel.C08
