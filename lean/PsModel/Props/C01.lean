import PsModel.Lemmas.C01
import PsModel.Lemmas.C01Comp
import PsModel.Gen.Handlers
import PsModel.Model.C01Rec
/-!
# C01 – property theorems: expressions and assignments evaluate exactly like Python

`eval cfg P` / `run cfg P` = pyscript's handlers as configured by the deviation flags, over ARBITRARY primitives `P` and
an arbitrary world type; `Py.eval` / `Py.run` = the language-reference shapes.  Equality of results for all `P` means:
the same primitive operations, on the same operands, in the same order, each once; the same final store; the same
exception.  No fuel: the recursion is structural on the syntax, so the theorems hold for every nesting depth.
-/
namespace PsModel.C01
variable {W : Type}

/-- **Expressions, any cfg.** -/
theorem C01_expr (cfg : Cfg) (P : Prims W) (e : Expr) (σ : Store) (w : W) (h : Conf cfg e = true) :
    eval cfg P e σ w = Py.eval P e σ w :=
  eval_eq cfg P Cfg.python allOn_python e σ w h

/-- **Straight-line programs, any cfg.**  On the fragment `ConfProg cfg`, for primitives whose in-place operators
coincide with the binary ones (or once `augInPlace` is on), the final store, the primitive trail (world) and the
exception are Python's. -/
theorem C01_prog_partial (cfg : Cfg) (P : Prims W) (hi : cfg.augInPlace = true ∨ NoInPlace P)
    (p : List Stmt) (σ : Store) (w : W) (h : ConfProg cfg p = true) : run cfg P p σ w = Py.run P p σ w :=
  run_eq cfg P Cfg.python allOn_python hi p σ w h

/-- **Today's code** – after the `fix:` commits every handler but the comprehension scope has its Python shape: the only
fragment condition left in `ConfProg Current.cfg`, besides what CPython's compiler rejects anyway (a repeated explicit keyword,
a tuple target of `op=`, an empty chain or generator list), is `compEarlyFree` (no clause of a comprehension mentions a loop
variable before the generator that binds it has run – Python raises UnboundLocalError there, pyscript reads the enclosing
variable: finding C01-F14, witness `C01_cex_comp_read_before_bound`).  No hypothesis on the primitives. -/
theorem C01_current_partial (P : Prims W) (p : List Stmt) (σ : Store) (w : W) (h : ConfProg Current.cfg p = true) :
    run Current.cfg P p σ w = Py.run P p σ w :=
  C01_prog_partial Current.cfg P (Or.inl rfl) p σ w h

/-- the handlers as they were before the `fix:` commits: agreement only on the fragment and for primitives without
in-place forms -/
theorem C01_prefix_partial (P : Prims W) (hi : NoInPlace P) (p : List Stmt) (σ : Store) (w : W)
    (h : ConfProg Cfg.preFix p = true) : run Cfg.preFix P p σ w = Py.run P p σ w :=
  C01_prog_partial Cfg.preFix P (Or.inr hi) p σ w h

/-- **Full statement for the repaired handlers**: a configuration with every flag on IS the reference – no fragment,
no hypothesis on the primitives. -/
theorem C01_full (cfg : Cfg) (h : AllOn cfg) (P : Prims W) (p : List Stmt) (σ : Store) (w : W) :
    run cfg P p σ w = Py.run P p σ w := by
  have : cfg = Cfg.python := by
    cases cfg; cases h; simp_all [Cfg.python]
  subst this; rfl

/-- today's comprehension handlers with every other handler in its reference shape; since the `fix:` commits this is
`Current.cfg` itself (definitionally), the name records which flag the comprehension theorem is about -/
def Cfg.compAsCoded : Cfg := { Cfg.python with compFresh := false }

/-- **Comprehensions, every shape.**  `ast_listcomp` / `ast_setcomp` / `ast_dictcomp` as coded – the loops run in the
ENCLOSING table, `loopvar_scope_save` only remembers the loop variables' entries and `loopvar_scope_restore` puts them back –
agree with Python's semantics (leftmost iterable evaluated in the enclosing scope, then a fresh scope in which every loop
variable is unbound until its generator binds it, nested loops, `if` clauses left to right with short-circuit, key before
value, element per innermost pass) for ANY number of generators and conditions, any targets, comprehensions nested in any
expression and in each other, any primitives – provided no clause mentions a loop variable that may still be unbound when
the clause runs (`compEarlyFree`, part of `Conf`). -/
theorem C01_comprehension_partial (P : Prims W) (e : Expr) (σ : Store) (w : W) (h : Conf Cfg.compAsCoded e = true) :
    eval Cfg.compAsCoded P e σ w = Py.eval P e σ w :=
  C01_expr Cfg.compAsCoded P e σ w h

/-- Python's comprehension, spelled out: the first iterable is evaluated (and iterated) in the enclosing scope; the loops
start in a scope where ALL loop variables are unbound; afterwards the enclosing entries of those names are back -/
theorem Py_comprehension_fresh_scope (P : Prims W) (isSet : Bool) (elt : Expr) (t : Target) (it : Expr) (ifs : List Expr)
    (gs : List Gen) (σ : Store) (w : W) :
    Py.eval P (.comp isSet elt (.mk t it ifs :: gs)) σ w =
      bind (Py.eval P it σ w) fun a w => bind (P.iter a.1 w) fun vals w =>
      bind (genStep (fun v σ w => assign Cfg.python P t v σ w) (fun σ w => evalConds Cfg.python P ifs σ w)
              (fun σ w => compGens Cfg.python P
                 (fun σ w => bind (Py.eval P elt σ w) fun e w => (.ok ([(none, e.1)], e.2), w)) gs σ w)
              vals (a.2.hide (t.names ++ gensNames gs)) w) fun r w =>
      bind (P.mkseq (if isSet then 2 else 0) (r.1.map (·.2)) w) fun v w =>
      (.ok (v, Store.restore r.2 σ (t.names ++ gensNames gs)), w) :=
  (eval_comp Cfg.python P isSet elt t it ifs gs σ w).trans (compWith_fresh Cfg.python P rfl _ _ t it ifs gs σ w)

/-- the `if` clauses of a generator short-circuit: after a false one the rest is not evaluated -/
theorem Py_comprehension_conditions_short_circuit (cfg : Cfg) (P : Prims W) (c : Expr) (cs : List Expr) (σ : Store) (w : W) :
    evalConds cfg P (c :: cs) σ w =
      bind (eval cfg P c σ w) fun a w => if P.truth a.1 w then evalConds cfg P cs a.2 w else (.ok (false, a.2), w) :=
  rfl

/-- the innermost step that `eval` hands to `compGens` for a dict comprehension (`eval_dictcomp`), reached when no generator
is left: key, then value.  The statement is only this unfolding of `compGens … []`; it does not mention `Expr.dictcomp`. -/
theorem Py_dictcomp_key_then_value (cfg : Cfg) (P : Prims W) (k v : Expr) (σ : Store) (w : W) :
    compGens cfg P (fun σ w => bind (eval cfg P k σ w) fun kv w => bind (eval cfg P v kv.2 w) fun e w =>
        (.ok ([(some kv.1, e.1)], e.2), w)) [] σ w =
      bind (eval cfg P k σ w) fun kv w => bind (eval cfg P v kv.2 w) fun e w => (.ok ([(some kv.1, e.1)], e.2), w) :=
  rfl

/-- non-vacuity: two generators, conditions on both, an inner iterable and a condition that use the OUTER loop variable, a
tuple target, a nested comprehension as element, a walrus in a condition – all inside today's fragment -/
def sampleComp : Expr :=
  .comp false (.comp true (.binop 0 (.name "x") (.name "z")) [.mk (.name "z") (.name "y") [.leaf 5]])
    [.mk (.tup false [.name "x", .name "k"] none []) (.leaf 1) [.leaf 2, .named "seen" (.name "x")],
     .mk (.name "y") (.call (.name "x") [] []) [.compare (.name "y") [.mk 2 (.name "k")]]]
example : Conf Current.cfg sampleComp = true := by decide
example : Conf Cfg.compAsCoded (.dictcomp (.name "x") (.name "y") [.mk (.name "x") (.leaf 1) [], .mk (.name "y") (.name "x") []]) = true := by
  decide

/-! ### unpacking takes a snapshot (`vals = [*(iter(val))]`) -/

/-- **Unpacking distributes a snapshot.**  For a tuple / list target without star, ALL items are obtained from the
right-hand side by ONE `iter` in the world `w` before any target is stored to; what the stores to earlier targets do to
the world (e.g. mutate the very object being unpacked) cannot change which values the later targets receive. -/
theorem C01_unpack_snapshot (cfg : Cfg) (P : Prims W) (isList : Bool) (before after : List Target) (v : Val) (σ : Store)
    (w w1 : W) (vals : List Val) (hl : (isList && !cfg.listTarget) = false) (hi : P.iter v w = (.ok vals, w1))
    (hn : vals.length = before.length + after.length) :
    assign cfg P (.tup isList before none after) v σ w =
      bind (assignList cfg P before (vals.take before.length) σ w1) fun σ1 w =>
        assignList cfg P after (vals.drop before.length) σ1 w := by
  rw [assign_tup, hl, hi]
  exact if_neg (Decidable.not_not.2 hn)

/-- the same with a starred name: the starred list is built from the snapshot too -/
theorem C01_unpack_snapshot_star (cfg : Cfg) (P : Prims W) (isList : Bool) (before after : List Target) (x : String) (v : Val)
    (σ : Store) (w w1 : W) (vals : List Val) (hl : (isList && !cfg.listTarget) = false) (hi : P.iter v w = (.ok vals, w1))
    (hn : before.length + after.length ≤ vals.length) :
    assign cfg P (.tup isList before (some x) after) v σ w =
      bind (assignList cfg P before (vals.take before.length) σ w1) fun σ1 w =>
      bind (P.mkseq 0 ((vals.drop before.length).take (vals.length - (before.length + after.length))) w) fun lst w =>
        assignList cfg P after (vals.drop (before.length + (vals.length - (before.length + after.length)))) (σ1.set x lst) w := by
  rw [assign_tup, hl, hi]
  exact if_neg (Nat.not_lt.2 hn)

/-! ### the reference shapes, spelled out (so that the spec can be read without the flags) -/

theorem Py_dict_key_then_value (P : Prims W) (k v : Expr) (r : List DictArm) (σ : Store) (w : W) :
    evalPairs Cfg.python P (.kv k v :: r) σ w =
      bind (Py.eval P k σ w) fun a w => bind (Py.eval P v a.2 w) fun b w =>
      bind (evalPairs Cfg.python P r b.2 w) fun ps w => (.ok ((some a.1, b.1) :: ps.1, ps.2), w) :=
  evalPairs_keyFirst Cfg.python P rfl k v r σ w

theorem Py_call_args_then_keywords (P : Prims W) (f : Expr) (args : List Elt) (kws : List Kw) (σ : Store) (w : W) :
    Py.eval P (.call f args kws) σ w =
      bind (Py.eval P f σ w) fun fv w => bind (evalElts Cfg.python P args fv.2 w) fun as w =>
      bind (evalKws Cfg.python P [] kws as.2 w) fun ks w =>
      bind (P.call fv.1 as.1 ks.1 w) fun r w => (.ok (r, ks.2), w) :=
  eval_call_argsFirst Cfg.python P rfl f args kws σ w

theorem Py_compare_each_operand_once (P : Prims W) (l : Expr) (op : Nat) (e : Expr) (rest : List CmpArm)
    (σ : Store) (w : W) :
    Py.eval P (.compare l (.mk op e :: rest)) σ w =
      bind (Py.eval P l σ w) fun a w => bind (Py.eval P e a.2 w) fun b w => bind (P.cmp op a.1 b.1 w) fun t w =>
      if t then chainOnce Cfg.python P b.1 rest b.2 w else (.ok (P.ofBool false, b.2), w) :=
  eval_compare_once Cfg.python P rfl l (.mk op e :: rest) σ w

theorem Py_aug_subscript_once_in_place (P : Prims W) (v i e : Expr) (op : Nat) (σ : Store) (w : W) :
    augAssign Cfg.python P (.sub v i) op e σ w =
      bind (Py.eval P v σ w) fun c w => bind (Py.eval P i c.2 w) fun k w =>
      bind (P.getitem c.1 k.1 w) fun a w => bind (Py.eval P e k.2 w) fun b w =>
      bind (P.iop op a b.1 w) fun r w => bind (P.setitem c.1 k.1 r w) fun _ w => (.ok b.2, w) :=
  rfl

/-- `and`/`or`: the code tests the truthiness of the last operand too; truthiness is pure, so the value is the last
operand's, as in the language reference -/
theorem Py_boolop_last_operand (cfg : Cfg) (P : Prims W) (isAnd : Bool) (last : Val) (e : Expr) (σ : Store) (w : W) :
    evalBool cfg P isAnd last [e] σ w = eval cfg P e σ w := by
  show bind (eval cfg P e σ w) _ = _
  rcases eval cfg P e σ w with ⟨(ex | a), w1⟩
  · rfl
  · simp only [bind_ok]; split <;> rfl

/-! ### witnesses (recorder primitives): `_cex_` = deviations of today's code (replayed by the check as known findings);
`_regress_` = the handler shapes that the `fix:` commits removed still deviate, i.e. the flags are not vacuous -/

def logOf (r : R RW Store) : List String := r.2.log

/-- `{T(1): T(2)}` – value evaluated before key -/
theorem C01_regress_dict :
    logOf (run Cfg.preFix (recorder 0) [.expr (.dict [.kv (.leaf 1) (.leaf 2)])] [] {})
      ≠ logOf (Py.run (recorder 0) [.expr (.dict [.kv (.leaf 1) (.leaf 2)])] [] {}) := by decide

/-- `f(T(1), x=T(2))` – keywords evaluated before positional arguments -/
def cexCall : List Stmt :=
  [.assign [.name "f"] (.leaf 0), .expr (.call (.name "f") [.plain (.leaf 1)] [.named "x" (.leaf 2)])]
theorem C01_regress_call : logOf (run Cfg.preFix (recorder 0) cexCall [] {}) ≠ logOf (Py.run (recorder 0) cexCall [] {}) := by
  decide

/-- `T(1) < T(2) < T(3)` – the middle operand is evaluated twice -/
def cexChain : List Stmt := [.expr (.compare (.leaf 1) [.mk 2 (.leaf 2), .mk 2 (.leaf 3)])]
theorem C01_regress_chain :
    logOf (run Cfg.preFix (recorder 0) cexChain [] { tape := [0, 0, 1, 0, 0, 0, 1] })
      ≠ logOf (Py.run (recorder 0) cexChain [] { tape := [0, 0, 1, 0, 0, 0, 1] }) := by decide

/-- `L[T(1)] += T(2)` – the target's sub-expressions are evaluated twice and the binary operator is applied -/
def cexAug : List Stmt := [.assign [.name "L"] (.leaf 0), .aug (.sub (.name "L") (.leaf 1)) 0 (.leaf 2)]
theorem C01_regress_aug : logOf (run Cfg.preFix (recorder 0) cexAug [] {}) ≠ logOf (Py.run (recorder 0) cexAug [] {}) := by
  -- plain `decide` is slow to check here: with smart unfolding the elaborator's evaluation of this run blows up
  set_option smartUnfolding false in decide

/-- `f"{x!r}"` – the conversion is ignored -/
def cexFstr : List Stmt := [.assign [.name "x"] (.leaf 0), .expr (.fstr [.fmt (.name "x") (some 114) none])]
theorem C01_regress_fstr_conversion :
    logOf (run Cfg.preFix (recorder 0) cexFstr [] {}) ≠ logOf (Py.run (recorder 0) cexFstr [] {}) := by decide

/-- `[p, q] = T(1)` – list-display targets are not implemented -/
def cexListTarget : List Stmt := [.assign [.tup true [.name "p", .name "q"] none []] (.leaf 1)]
theorem C01_regress_list_target :
    (run Cfg.preFix (recorder 0) cexListTarget [] { tape := [0, 2] }).1.toOption.isSome
      ≠ (Py.run (recorder 0) cexListTarget [] { tape := [0, 2] }).1.toOption.isSome := by
  set_option smartUnfolding false in decide

/-- `+x` – unary plus is not applied -/
def cexUadd : List Stmt := [.assign [.name "x"] (.leaf 0), .expr (.unary 3 (.name "x"))]
theorem C01_regress_uadd : logOf (run Cfg.preFix (recorder 0) cexUadd [] {}) ≠ logOf (Py.run (recorder 0) cexUadd [] {}) := by
  decide

/-- `f(x=1, **{"x": 2})` – no TypeError, the later value wins -/
def cexDupKw : List Stmt :=
  [.assign [.name "f"] (.leaf 0),
   .expr (.call (.name "f") [] [.named "7" (.const 1), .splat (.dict [.kv (.fstr [.lit 7]) (.const 2)])])]
theorem C01_regress_dup_keyword :
    (run Cfg.preFix (recorder 0) cexDupKw [] {}).1.toOption.isSome ≠ (Py.run (recorder 0) cexDupKw [] {}).1.toOption.isSome := by
  decide

/-- `f(**{"7": 2}, 7=T(1), k=T(2))` – CPython evaluates the whole run of explicit keywords (T(1), T(2)) before the merge
raises TypeError; before fix 06e8bd2 the duplicate raised at once and T(2) was never evaluated -/
def cexKwGroup : List Stmt :=
  [.assign [.name "f"] (.leaf 0),
   .expr (.call (.name "f") [] [.splat (.dict [.kv (.fstr [.lit 7]) (.const 2)]), .named "7" (.leaf 1), .named "k" (.leaf 2)])]
theorem C01_regress_kw_group :
    logOf (run { Current.cfg with kwGroupMerge := false } (recorder 0) cexKwGroup [] {})
      ≠ logOf (Py.run (recorder 0) cexKwGroup [] {}) ∧
    logOf (run Current.cfg (recorder 0) cexKwGroup [] {}) = logOf (Py.run (recorder 0) cexKwGroup [] {}) := by decide

/-- `y = T(9); [y for x in [T(1)] for y in [y]]` – the inner iterable reads the loop variable `y` before its generator has
bound it: Python raises (UnboundLocalError, the NameError family), today's code reads the enclosing `y` (finding C01-F14) -/
def cexCompUnbound : List Stmt :=
  [.assign [.name "y"] (.leaf 9),
   .expr (.comp false (.name "y") [.mk (.name "x") (.seq 0 [.plain (.leaf 1)]) [], .mk (.name "y") (.seq 0 [.plain (.name "y")]) []])]
def errOf (r : R RW Store) : Option Exc := match r.1 with | .error e => some e | .ok _ => none
theorem C01_cex_comp_read_before_bound :
    errOf (run Current.cfg (recorder 0) cexCompUnbound [] {}) = none ∧
    errOf (Py.run (recorder 0) cexCompUnbound [] {}) = some .nameError ∧
    ConfProg Current.cfg cexCompUnbound = false := by decide

/-- non-vacuity: a program with every statement kind and every expression kind but list / tuple / set displays and comprehensions
(for those: `sampleComp`) lies in the fragment of the handlers before the `fix:` commits (every flag off) -/
def sample : List Stmt :=
  [.assign [.name "a", .tup false [.name "b"] (some "c") [.sub (.name "a") (.const 0)]] (.leaf 1),
   .expr (.call (.attr (.name "a") "m") [.plain (.leaf 2), .star (.name "b")] [.named "k" (.const 3)]),
   .assign [.name "d"] (.dict [.kv (.const 1) (.leaf 3), .splat (.name "a")]),
   .expr (.compare (.leaf 4) [.mk 0 (.name "a"), .mk 1 (.leaf 5)]),
   .expr (.boolop true [.ifexp (.leaf 6) (.name "a") (.unary 2 (.name "b")), .subscript (.name "a") (.slice (some (.const 1)) none none)]),
   .aug (.name "a") 0 (.binop 1 (.leaf 7) (.named "z" (.leaf 8))),
   .expr (.fstr [.lit 1, .fmt (.name "a") none (some (.fstr [.lit 2]))]),
   .del [.name "z", .sub (.name "a") (.const 0)]]
example : ConfProg Cfg.preFix sample = true := by decide

/-- the node handlers this model mirrors, and `ast_annassign` / `ast_lambda`, which only the correspondence check exercises
(dispatch in `aeval` is by handler NAME, so a handler that disappears or is renamed silently turns its node kind into
`NotImplementedError`) -/
def modelledHandlers : List String :=
  ["ast_constant", "ast_name", "ast_binop", "ast_binop_add", "ast_binop_sub", "ast_binop_mult", "ast_binop_div",
   "ast_binop_mod", "ast_binop_pow", "ast_binop_lshift", "ast_binop_rshift", "ast_binop_bitor", "ast_binop_bitxor",
   "ast_binop_bitand", "ast_binop_floordiv", "ast_unaryop", "ast_unaryop_not", "ast_unaryop_invert", "ast_unaryop_uadd",
   "ast_unaryop_usub", "ast_boolop", "ast_compare", "ast_cmpop_eq", "ast_cmpop_noteq", "ast_cmpop_lt", "ast_cmpop_lte",
   "ast_cmpop_gt", "ast_cmpop_gte", "ast_cmpop_is", "ast_cmpop_isnot", "ast_cmpop_in", "ast_cmpop_notin", "ast_ifexp",
   "ast_subscript", "ast_slice", "ast_attribute", "ast_call", "ast_list", "ast_tuple", "ast_set", "ast_dict",
   "ast_joinedstr", "ast_formattedvalue", "ast_namedexpr", "ast_assign", "ast_augassign", "ast_delete", "ast_expr",
   "ast_listcomp", "ast_setcomp", "ast_dictcomp", "ast_annassign", "ast_lambda"]

/-- the helper methods of the handlers that the model mirrors -/
def modelledHelpers : List String :=
  ["listcomp_loop", "setcomp_loop", "dictcomp_loop", "loopvar_scope_save", "loopvar_scope_restore", "recurse_assign",
   "eval_elt_list"]

/-- **Tie (translator).**  Every handler the model mirrors exists in the source tree that was extracted for this run. -/
theorem C01_handlers_present : ∀ h ∈ modelledHandlers, h ∈ Gen.AST_HANDLERS := by
  show modelledHandlers ⊆ Gen.AST_HANDLERS
  simp only [modelledHandlers, List.cons_subset, List.nil_subset, and_true]
  unfold Gen.AST_HANDLERS
  -- One membership per modelled name.  The table is extracted from the source tree anew for every run and may gain entries
  -- or come in another order, so each name is searched for (`constructor` closes the goal with `List.Mem.head` where the
  -- literals coincide and steps over one entry with `.tail` where they do not) and not addressed by a position.  Literals
  -- are compared by unification as they stand; deciding `=` on two strings would re-encode both to UTF-8 bytes.
  repeat' constructor

end PsModel.C01

/-! ## (c) comprehension loop variables: their own scope (`loopvar_scope_save` / `loopvar_scope_restore`) -/
namespace PsModel.C01Comp

/-- **Isolation.**  Whatever the enclosing symbol table holds (plain values, cells shared with closures, unbound cells), for
any list of distinct loop-variable names and any number of iterations with any values: after the comprehension every name
has exactly the entry it had before, and no cell has changed – the loop variables neither leak nor write through to a
closure's variable. -/
theorem C01_comprehension_scope (f : Frame) (lv : List String) (iters : List (List Nat)) (h : lv.Nodup) :
    (comp true f lv iters).cells = f.cells ∧ ∀ y, get (comp true f lv iters).tbl y = get f.tbl y := by
  obtain ⟨_, hc, ho⟩ := loops_inv lv iters (save_inv f lv)
  refine ⟨hc, fun y => ?_⟩
  by_cases hy : y ∈ lv
  · exact (restore_in _ lv _ y h hy).trans ((get_savedOf f.tbl lv y).trans (if_pos hy))
  · exact (restore_notin _ lv _ y hy).trans (ho y hy)

/-- inside the comprehension a loop variable reads the value of the current iteration (never a stale cell); stated for the first
assignment after `loopvar_scope_save` -/
theorem C01_comprehension_reads_loop_value (f : Frame) (lv : List String) (x : String) (v : Nat) (h : lv.Nodup) (hx : x ∈ lv) :
    load (assign (save true f lv).1 x v) x = some v := by
  rw [assign_plain (save_inv f lv).1 hx, load]
  show (match get (put _ x (.plain v)) x with | some (.plain v) => some v | some (.cell i) => _ | none => none) = _
  rw [get_put, if_pos rfl]

/-- before fix cc1c3b5 (cells were not hidden) the loop variable overwrote the closure's variable: `x` is cell 0 holding 10,
`[x for x in (1, 2)]` leaves 2 in the cell -/
theorem C01_regress_comprehension_writes_through :
    (comp false ⟨[("x", .cell 0)], [some 10]⟩ ["x"] [[1], [2]]).cells = [some 2] ∧
    (comp true ⟨[("x", .cell 0)], [some 10]⟩ ["x"] [[1], [2]]).cells = [some 10] := by decide

/-- non-vacuity: a table with a shared cell, an unbound cell, a plain entry and a name without entry -/
example : (["x", "y", "z", "w"] : List String).Nodup ∧
    (comp true ⟨[("x", .cell 0), ("y", .cell 1), ("z", .plain 5)], [some 10, none]⟩ ["x", "y", "z", "w"] [[1, 2, 3, 4], [5, 6, 7, 8]]).cells
      = [some 10, none] := by decide

end PsModel.C01Comp
