import PsModel.Lemmas.C11Sim
import PsModel.Lemmas.C11Frame
/-!
# C11 – property theorems (isolated global contexts, shared module singletons)

`execStmt / execBlock / callFn / importMod` is the model of pyscript's evaluator with its four context pointers
(`Model/C11.lean`), `Py.*` the lexical reference without pointers (`Spec/C11.lean`).  The restore theorems are `stable_rel`
run through the evaluator (`Stable.run`), the singleton theorems `stable_keeps`; the defining-context theorems are `simAll`
at `view_abs`, the frame theorem `simAll` at `view_swap`.  These hold for every world (function bodies, files), every fuel
and every state satisfying the stated invariant; the witnesses of the findings are closed computations.
-/
namespace PsModel.C11

/-- **Restore, every program, every exit path.**  After `EvalFunc.call` – whether the body returned a value or
raised (nothing is assumed of `.val`), and whatever it executed, including `pyscript.set_global_ctx` – the evaluator's
pointers (`global_sym_table`, `sym_table`, `sym_table_stack`, `global_ctx`, `curr_func`) are exactly those before the
call, or what `set_global_ctx(c)` makes of those for some `c`; a call into another context always restores
exactly; and if no `set_global_ctx` ran (ghost counter `nset` unchanged) the pointers are exactly restored. -/
theorem C11_restore (W : World) (n : Nat) (st : St) (fv : Val) (vs : List Val) (hw : WF st.p) :
    ((callFn W n st fv vs).st.p = st.p ∨ ∃ c, (callFn W n st fv vs).st.p = setGlobalCtx st.p c) ∧
    ((callFn W n st fv vs).st.h.nset = st.h.nset → (callFn W n st fv vs).st.p = st.p) ∧
    (st.p.gctx ≠ fnCtx fv st.p.gctx → (callFn W n st fv vs).st.p = st.p) := by
  obtain ⟨h1, h2⟩ := callFn_restore W n st fv vs hw
  exact ⟨h1.imp (·.2) (·.2), h1.unchanged, h2⟩

/-- **The pointer shape is an invariant of every execution** (module level: empty stack, `sym_table` is the
global table; inside calls: the bottom stack entry is the global table, `sym_table` a local table): it holds after any
statement list run from pointers of that shape.  In particular `global_sym_table` is then the table of `global_ctx`. -/
theorem C11_pointer_invariant (W : World) (n : Nat) (st : St) (b : Block) (hw : WF st.p) :
    WF (execBlock W n st b).st.p ∧ (execBlock W n st b).st.p.gst = (execBlock W n st b).st.p.gctx := by
  have h := (((stable_rel W).run n).2.1 st b hw).wf hw
  exact ⟨h, h.1⟩

/-- a statement list executed at some nesting depth leaves the pointers as they were (local tables may have new
contents), in every run during which `set_global_ctx` was not executed (ghost counter `nset` unchanged) -/
theorem C11_restore_block (W : World) (n : Nat) (st : St) (b : Block) (hw : WF st.p)
    (hn : (execBlock W n st b).st.h.nset = st.h.nset) : Same st.p (execBlock W n st b).st.p :=
  (((stable_rel W).run n).2.1 st b hw).unchanged hn

/-- **Refinement.**  On programs without `set_global_ctx`, the pointer-switching evaluator computes exactly what
the lexical reference computes – same heap (all global tables, registry), same locals, same outcome – from every
coherent state.  In the reference a function body runs with the globals of the context that defined it *by
construction*; hence so it does in the model, whoever calls it. -/
theorem C11_refines (W : World) (hW : W.NoSet) (n : Nat) (st : St) (b : Block) (hc : Coh st.p) (hb : noSetB b = true) :
    (Py.execBlock W n (abs st) b).s = abs (execBlock W n st b).st ∧
    (Py.execBlock W n (abs st) b).out = (execBlock W n st b).out ∧
    Same st.p (execBlock W n st b).st.p := by
  have h := (simAll hW (view_abs W) n).2.1 st b hc hb
  exact ⟨h.s, h.out, h.same⟩

/-- **A function executes against the globals of its defining context, regardless of the caller.**
The effect and result of calling `fn c fid` from ANY coherent evaluator state is that of running its body in the
reference with `g := c` (the defining context), fresh locals – it does not depend on the caller's pointers. -/
theorem C11_defining_ctx (W : World) (hW : W.NoSet) (n : Nat) (st : St) (c fid : Nat) (vs : List Val)
    (fd : FuncDef) (l : Table) (hc : Coh st.p) (hf : W.funcs[fid]? = some fd) (hl : bindArgs fd.params vs = some l) :
    (callFn W (n+1) st (.fn c fid) vs).st.h
        = (Py.execBlock W n ⟨st.h, { g := c, locals := some l, gnames := some fd.globals }⟩ fd.body).s.h ∧
    (callFn W (n+1) st (.fn c fid) vs).val
        = outOfBody (Py.execBlock W n ⟨st.h, { g := c, locals := some l, gnames := some fd.globals }⟩ fd.body).out ∧
    (callFn W (n+1) st (.fn c fid) vs).st.p = st.p := by
  have h := (simAll hW (view_abs W) (n+1)).2.2.1 st (.fn c fid) vs hc trivial fun _ _ => trivial
  simp only [Py.callFn, hf, hl] at h
  exact ⟨(congrArg PSt.h h.s).symm, h.val.symm, h.ptrs⟩

/-- two callers in different contexts (a trigger run, a task, another file) get the same effect and result -/
theorem C11_caller_independent (W : World) (hW : W.NoSet) (n : Nat) (st1 st2 : St) (fv : Val) (vs : List Val)
    (h1 : Coh st1.p) (h2 : Coh st2.p) (hh : st1.h = st2.h) :
    (callFn W n st1 fv vs).st.h = (callFn W n st2 fv vs).st.h ∧ (callFn W n st1 fv vs).val = (callFn W n st2 fv vs).val := by
  have a := (simAll hW (view_abs W) n).2.2.1 st1 fv vs h1 trivial fun _ _ => trivial
  have b := (simAll hW (view_abs W) n).2.2.1 st2 fv vs h2 trivial fun _ _ => trivial
  rw [show view id st2 = ⟨st1.h, envOf st2.p⟩ by rw [hh]; rfl, Py.callFn_env W n st1.h (envOf st1.p)] at b
  exact ⟨(congrArg PSt.h a.s).symm.trans (congrArg PSt.h b.s), a.val.symm.trans b.val⟩

/-- **Frame / non-interference.**  Let `B` be a context that is not the current one, has no module object, and to
which no function or module value in another context's global table or in the current local table refers (`SFree`).
Then running any program (without `set_global_ctx`) neither reads nor writes `B`'s global table: replacing the table by
an arbitrary one changes nothing else – same outcome, same heap except that table – and the table itself is unchanged. -/
theorem C11_frame (W : World) (hW : W.NoSet) (B n : Nat) (st : St) (b : Block) (hc : Coh st.p) (hb : noSetB b = true)
    (hf : SFree B (abs st)) (t' : Table) :
    (execBlock W n ⟨st.h.setTab B t', st.p⟩ b).st.h = (execBlock W n st b).st.h.setTab B t' ∧
    (execBlock W n ⟨st.h.setTab B t', st.p⟩ b).out = (execBlock W n st b).out ∧
    (execBlock W n st b).st.h.tab B = st.h.tab B ∧
    SFree B (abs (execBlock W n st b).st) := by
  -- the reference run from `abs` of the state with another table for `B` is both what the run from that state stands
  -- for and the run from `st` read with that table
  have key : ∀ t'', (execBlock W n ⟨st.h.setTab B t'', st.p⟩ b).st.h = (execBlock W n st b).st.h.setTab B t'' ∧
      (execBlock W n ⟨st.h.setTab B t'', st.p⟩ b).out = (execBlock W n st b).out := by
    intro t''
    have s1 := (simAll hW (view_swap W B t'') n).2.1 st b ⟨hc, hf⟩ hb
    have s2 := (simAll hW (view_abs W) n).2.1 ⟨st.h.setTab B t'', st.p⟩ b hc hb
    exact ⟨congrArg PSt.h (s2.s.symm.trans s1.s), s2.out.symm.trans s1.out⟩
  refine ⟨(key t').1, (key t').2, ?_, ((simAll hW (view_swap W B t') n).2.1 st b ⟨hc, hf⟩ hb).inv.2⟩
  -- with `B`'s own table put in its place the second run is the first
  have k := congrArg (fun h : Heap => h.tab B) (key (st.h.tab B)).1
  rw [setTab_tab] at k
  exact k.trans (tab_setTab_same _ B _)

/-- **Lookup before load.**  If the first candidate context name that is registered with a module object maps to
`i`, `module_import` returns that module object and changes nothing (no load, no new context, no registry change). -/
theorem C11_singleton_lookup (W : World) (n : Nat) (st : St) (m : Name) (lvl : Nat) (cds : List Cand) (i : Nat)
    (hcd : candidates W.cfg (selfCtx st.h st.p.gctx) m lvl = .ok cds) (hf : findLoaded st.h cds = some i) :
    importMod W (n+1) st m lvl = ⟨st, .ok (some i)⟩ := by
  simp only [importMod, importLookup, hcd, hf]

/-- when every candidate carries the name `k` and `k` is registered with module `i`, the lookup finds `i` -/
theorem C11_singleton_found (h : Heap) (cds : List Cand) (k : Name) (i : Nat) (hne : cds ≠ [])
    (hk : ∀ cd ∈ cds, cd.ctxName = k) (hr : Reg k i h) : findLoaded h cds = some i := by
  cases cds with
  | nil => exact absurd rfl hne
  | cons cd r =>
    simp only [findLoaded, hk cd List.mem_cons_self, hr.1, hr.2, if_true]

/-- **A registered module object is never replaced and its file never loaded again** – by any program, from any
context, through any number of imports, calls, tasks, failing loads of other modules, `set_global_ctx` …:
after any execution `k` is still registered to the same context `i`, and no `load_file` for `k` was started. -/
theorem C11_singleton (W : World) (k : Name) (i n : Nat) (st : St) (b : Block) (hr : Reg k i st.h) :
    Reg k i (execBlock W n st b).st.h ∧
    ∃ extra, (execBlock W n st b).st.h.loads = st.h.loads ++ extra ∧ k ∉ extra := by
  have h := ((stable_keeps W k i).run n).2.1 st b hr
  exact ⟨h.reg, h.loads⟩

/-- **n imports, one object.**  Once `k ↦ i` is registered, then after running ANY program `b`, an import whose
candidates are named `k` returns module `i` again and leaves the state untouched. -/
theorem C11_singleton_again (W : World) (k : Name) (i n n' : Nat) (st : St) (b : Block) (hr : Reg k i st.h)
    (m : Name) (lvl : Nat) (cds : List Cand) (hne : cds ≠ [])
    (hcd : candidates W.cfg (selfCtx (execBlock W n st b).st.h (execBlock W n st b).st.p.gctx) m lvl = .ok cds)
    (hk : ∀ cd ∈ cds, cd.ctxName = k) :
    importMod W (n'+1) (execBlock W n st b).st m lvl = ⟨(execBlock W n st b).st, .ok (some i)⟩ :=
  C11_singleton_lookup W n' _ m lvl cds i hcd (C11_singleton_found _ cds k i hne hk (C11_singleton W k i n st b hr).1)

/-- a successful load leaves its context name registered to the context it returns (the registry half of `Reg`; that the
context carries a module object is not stated) -/
theorem C11_singleton_registered (W : World) (n : Nat) (st : St) (m : Name) (lvl : Nat) (cd : Cand) (body : Block)
    (hl : importLookup W st.h st.p.gctx m lvl = .load cd body) (c : Nat)
    (hv : (importMod W (n+1) st m lvl).val = .ok (some c)) :
    regGet (importMod W (n+1) st m lvl).st.h.reg cd.ctxName = some c := by
  simp only [importMod, hl] at hv ⊢
  cases ho : (execBlock W n { h := loadBegin st.h cd, p := fresh st.h.ctxs.length } body).out with
  | exc e => rw [ho] at hv; cases hv
  | norm => rw [ho] at hv; cases hv; exact regGet_regSet_self _ _ _
  | ret v => rw [ho] at hv; cases hv; exact regGet_regSet_self _ _ _

/-- **One context per module name (absolute imports, importer outside `apps/`)**: the context name depends on the
module name only, not on who imports – so, by `C11_singleton_again`, all such importers share one module object
(`_partial`: the name a relative import gives its context depends on the importer, see `C11_regress_relative_submodule`). -/
theorem C11_singleton_absolute_partial (cfg : Cfg) (self : Ctx) (m : Name) (happs : isAppsRel self.rel = false) :
    ∃ cds, candidates cfg self m 0 = .ok cds ∧ cds ≠ [] ∧ ∀ cd ∈ cds, cd.ctxName = "modules" :: m := by
  refine ⟨_, by simp only [candidates, Nat.lt_irrefl, if_false, happs]; rfl, by simp, ?_⟩
  intro cd hcd
  simp only [Bool.false_eq_true, if_false, List.nil_append, List.mem_cons, List.mem_nil_iff, or_false] at hcd
  rcases hcd with rfl | rfl <;> rfl

/-- **C11-F1 repaired (witness, both shapes).**  `apps/app1/__init__.py` and `apps/app1/helper.py` both execute
`from . import other`.  Current code: both look the file `apps/app1/other` up under the ONE context name
`apps.app1.other`.  Shape before the repair (regression witness): the submodule used `apps.app1.helper.other`, so the same
file was loaded twice – two module objects. -/
theorem C11_regress_relative_submodule :
    candidates Cfg.current { name := ["apps", "app1"], rel := some ["apps", "app1", "__init__"], hasModule := false } ["other"] 1
      = .ok [⟨["apps", "app1", "other"], ["apps", "app1", "other", "__init__"], some ["apps", "app1", "other"]⟩,
             ⟨["apps", "app1", "other"], ["apps", "app1", "other"], some ["apps", "app1"]⟩] ∧
    candidates Cfg.current { name := ["apps", "app1", "helper"], rel := some ["apps", "app1"], hasModule := true } ["other"] 1
      = .ok [⟨["apps", "app1", "other"], ["apps", "app1", "other", "__init__"], some ["apps", "app1", "other"]⟩,
             ⟨["apps", "app1", "other"], ["apps", "app1", "other"], some ["apps", "app1"]⟩] ∧
    candidates Cfg.preFix { name := ["apps", "app1", "helper"], rel := some ["apps", "app1"], hasModule := true } ["other"] 1
      = .ok [⟨["apps", "app1", "helper", "other"], ["apps", "app1", "other", "__init__"], some ["apps", "app1", "other"]⟩,
             ⟨["apps", "app1", "helper", "other"], ["apps", "app1", "other"], some ["apps", "app1"]⟩] := by
  refine ⟨by rfl, by rfl, by rfl⟩

/-- **C11-F4 repaired (witness, both shapes).**  The file `modules/pkg/sub.py` reached by its absolute dotted name now
gets `rel_import_path = modules/pkg`, the same as when it is reached by a relative import from the package, and a
relative import executed in it resolves inside the package.  Shape before the repair (regression witness): it got
`None` and the relative import raised ImportError. -/
theorem C11_regress_relative_dotted :
    candidates Cfg.current { name := ["file", "a"], rel := none, hasModule := false } ["pkg", "sub"] 0
      = .ok [⟨["modules", "pkg", "sub"], ["modules", "pkg", "sub", "__init__"], some ["modules", "pkg", "sub"]⟩,
             ⟨["modules", "pkg", "sub"], ["modules", "pkg", "sub"], some ["modules", "pkg"]⟩] ∧
    candidates Cfg.current { name := ["modules", "pkg"], rel := some ["modules", "pkg"], hasModule := true } ["sub"] 1
      = .ok [⟨["modules", "pkg", "sub"], ["modules", "pkg", "sub", "__init__"], some ["modules", "pkg", "sub"]⟩,
             ⟨["modules", "pkg", "sub"], ["modules", "pkg", "sub"], some ["modules", "pkg"]⟩] ∧
    candidates Cfg.current { name := ["modules", "pkg", "sub"], rel := some ["modules", "pkg"], hasModule := true } ["sib"] 1
      = .ok [⟨["modules", "pkg", "sib"], ["modules", "pkg", "sib", "__init__"], some ["modules", "pkg", "sib"]⟩,
             ⟨["modules", "pkg", "sib"], ["modules", "pkg", "sib"], some ["modules", "pkg"]⟩] ∧
    candidates Cfg.preFix { name := ["file", "a"], rel := none, hasModule := false } ["pkg", "sub"] 0
      = .ok [⟨["modules", "pkg", "sub"], ["modules", "pkg", "sub", "__init__"], some ["modules", "pkg", "sub"]⟩,
             ⟨["modules", "pkg", "sub"], ["modules", "pkg", "sub"], none⟩] ∧
    candidates Cfg.preFix { name := ["modules", "pkg", "sub"], rel := none, hasModule := true } ["sib"] 1 = .error .importErr := by
  refine ⟨by rfl, by rfl, by rfl, by rfl, by rfl⟩

/-- **Finding C11-F2 (witness).**  `module_import` suspends between its lookup and `load_file`.  Two importers of the
not-yet-loaded module `m1` that both pass the lookup first each create a context and a module object (ids 1 and 2,
both with a module) – whereas two imports one after the other (the sequential histories that `C11_singleton_again`
is about) yield the same object. -/
theorem C11_singleton_race_cex :
    (match importLookup raceW raceH 0 ["m1"] 0 with
     | .load cd _ => some cd
     | _ => none) = some raceCd ∧
    (importLoad raceW 10 ⟨raceH, fresh 0⟩ raceCd [.assign "cnt" (.lit 0)]).val = .ok (some 1) ∧
    (importLoad raceW 10 ⟨(importLoad raceW 10 ⟨raceH, fresh 0⟩ raceCd [.assign "cnt" (.lit 0)]).st.h, fresh 0⟩ raceCd
        [.assign "cnt" (.lit 0)]).val = .ok (some 2) ∧
    hasModuleAt (importLoad raceW 10 ⟨(importLoad raceW 10 ⟨raceH, fresh 0⟩ raceCd [.assign "cnt" (.lit 0)]).st.h, fresh 0⟩
        raceCd [.assign "cnt" (.lit 0)]).st.h 1 = true ∧
    hasModuleAt (importLoad raceW 10 ⟨(importLoad raceW 10 ⟨raceH, fresh 0⟩ raceCd [.assign "cnt" (.lit 0)]).st.h, fresh 0⟩
        raceCd [.assign "cnt" (.lit 0)]).st.h 2 = true ∧
    (importMod raceW 10 ⟨raceH, fresh 0⟩ ["m1"] 0).val = .ok (some 1) ∧
    (importMod raceW 10 (importMod raceW 10 ⟨raceH, fresh 0⟩ ["m1"] 0).st ["m1"] 0).val = .ok (some 1) := by
  refine ⟨by rfl, by rfl, by rfl, by rfl, by rfl, by rfl, by rfl⟩

/-- **Finding C11-F3 (witness).**  With `m1: import m2` and `m2: import m1`, importing either module never
succeeds – for EVERY amount of fuel the evaluation runs out of it (each nested import finds the other module
"not loaded yet" and loads it again), from any heap without module objects and without a context under `apps/`. -/
theorem C11_cycle_cex : ∀ (n : Nat) (st : St), NoMod st.h →
    ((importMod cycW n st ["m1"] 0).val = .error .fuel ∧ NoMod (importMod cycW n st ["m1"] 0).st.h) ∧
    ((importMod cycW n st ["m2"] 0).val = .error .fuel ∧ NoMod (importMod cycW n st ["m2"] 0).st.h) := by
  intro n
  induction n using Nat.strongRecOn with
  | _ n ih =>
    intro st hn
    have look : ∀ m other, (m = "m1" ∧ other = "m2") ∨ (m = "m2" ∧ other = "m1") →
        importLookup cycW st.h st.p.gctx [m] 0
          = .load ⟨["modules", m], ["modules", m], none⟩ [.import_ [other] none] := by
      intro m other hm
      unfold importLookup
      simp only [candidates, Nat.lt_irrefl, if_false, hn.2 st.p.gctx, Bool.false_eq_true, List.nil_append,
        findLoaded_eq_none.mpr fun _ _ c _ => hn.1 c]
      rcases hm with ⟨rfl, rfl⟩ | ⟨rfl, rfl⟩ <;> rfl
    have step : ∀ m other, (m = "m1" ∧ other = "m2") ∨ (m = "m2" ∧ other = "m1") →
        (importMod cycW n st [m] 0).val = .error .fuel ∧ NoMod (importMod cycW n st [m] 0).st.h := by
      intro m other hm
      cases n with
      | zero => exact ⟨rfl, hn⟩
      | succ k =>
        have hb := noMod_loadBegin hn ⟨["modules", m], ["modules", m], none⟩ rfl
        -- the module body is the one import statement: two units of fuel down sits the nested `importMod`
        have body :
            (execBlock cycW k ⟨loadBegin st.h ⟨["modules", m], ["modules", m], none⟩, fresh st.h.ctxs.length⟩
              [.import_ [other] none]).out = .exc .fuel ∧
            NoMod (execBlock cycW k ⟨loadBegin st.h ⟨["modules", m], ["modules", m], none⟩, fresh st.h.ctxs.length⟩
              [.import_ [other] none]).st.h := by
          cases k with
          | zero => exact ⟨rfl, hb⟩
          | succ j =>
            cases j with
            | zero => exact ⟨rfl, hb⟩
            | succ i =>
              have := ih i (by omega) ⟨loadBegin st.h ⟨["modules", m], ["modules", m], none⟩, fresh st.h.ctxs.length⟩ hb
              simp only [execBlock, execStmt]
              rcases hm with ⟨rfl, rfl⟩ | ⟨rfl, rfl⟩
              · rw [this.2.1]; exact ⟨rfl, this.2.2⟩
              · rw [this.1.1]; exact ⟨rfl, this.1.2⟩
        simp only [importMod, look m other hm, body.1]
        exact ⟨trivial, body.2⟩
    exact ⟨step "m1" "m2" (Or.inl ⟨rfl, rfl⟩), step "m2" "m1" (Or.inr ⟨rfl, rfl⟩)⟩

/-! ## non-vacuity of the hypotheses -/

/-- a world without `set_global_ctx`, a coherent well-formed state; then an unreferenced context `B = 1`, a registered module -/
example : World.NoSet raceW ∧ WF (fresh 0) ∧ Coh (fresh 0) ∧ noSetB [Stmt.import_ ["m1"] none] = true :=
  ⟨⟨(by intro fd h; cases h), (by intro pb h; simp [raceW] at h; subst h; rfl)⟩, wf_fresh 0, coh_fresh 0, rfl⟩

example : SFree 1 (abs ⟨{ ctxs := [⟨["file", "a"], none, false⟩, ⟨["file", "b"], none, false⟩], tabs := fun c =>
      if c = 1 then [("f", .fn 1 0)] else [("x", .int 3)], reg := [] }, fresh 0⟩) := by
  refine ⟨⟨by decide, by decide, ?_⟩, by decide, by intro t h; cases h⟩
  intro c hc kv hkv
  simp only [abs, Heap.tab] at hkv
  rw [if_neg hc] at hkv
  simp only [List.mem_singleton] at hkv
  subst hkv
  rfl

example : Reg ["modules", "m1"] 1 (importMod raceW 10 ⟨raceH, fresh 0⟩ ["m1"] 0).st.h := by
  constructor <;> rfl

/-- the importing file of the witness: `y = 100`; the module: `x = 1; y = 2; _p = 3; __all__ = ['x', '_p']` -/
def starSt : St :=
  ⟨{ ctxs := [⟨["file", "a"], none, false⟩, ⟨["modules", "m1"], none, true⟩],
     tabs := fun c => if c = 1 then [("x", .int 1), ("y", .int 2), ("_p", .int 3), ("__all__", .names ["x", "_p"])]
                      else [("y", .int 100)],
     reg := [(["file", "a"], 0), (["modules", "m1"], 1)] }, fresh 0⟩

/-- **C11-F6 (open; witness, both shapes).**  With the `__all__`-reading shape `Cfg.withAll`, `from m1 import *` binds
exactly the names of `__all__` (`x` and the private `_p`) and the importer's own `y` survives.  TODAY's code
(`Cfg.current`, same as the pre-fix shape in this respect): `y` is overwritten by the module's `y` and `_p` is not
imported – the repair was withdrawn at integration, see findings.d/C11.json. -/
theorem C11_regress_star_ignores_all :
    ((bindStarC Cfg.withAll starSt 1).1.h.tab 0 = [("y", .int 100), ("x", .int 1), ("_p", .int 3)] ∧
     (bindStarC Cfg.withAll starSt 1).2 = none) ∧
    ((bindStarC Cfg.current starSt 1).1.h.tab 0 = [("y", .int 2), ("x", .int 1)]) ∧
    ((bindStarC Cfg.preFix starSt 1).1.h.tab 0 = [("y", .int 2), ("x", .int 1)]) := by
  -- both shapes that do not read `__all__` run the same fold over the module's table
  have pub : (bindStar starSt (starSt.h.tab 1)).h.tab 0 = [("y", .int 2), ("x", .int 1)] := by
    simp [starSt, bindStar, isPublic, writeSym, fresh, Heap.tab, Heap.setKey, Heap.setTab, tset]
  exact ⟨⟨by rfl, by rfl⟩, pub, pub⟩

/-- **`*` means `__all__`** (for the `__all__`-reading shape `Cfg.withAll`, not today's code – C11-F6 is open).  When the
module has a list-valued `__all__`, `from m import *` is exactly `from m import n1, n2, …` for the names of that list, in
that order – for every state and every module table; in particular a listed name the module lacks raises AttributeError
as `getattr` does. -/
theorem C11_star_is_all (st : St) (c : Nat) (l : List String) (h : allOf (st.h.tab c) = some l) :
    bindStarC Cfg.withAll st c = bindFrom st c (l.map (fun n => (n, none))) := by
  simp only [bindStarC, starNames, Cfg.withAll, if_true, h]

example : allOf (starSt.h.tab 1) = some ["x", "_p"] := rfl

/-- a module without a list-valued `__all__` exports every name that does not start with `_` (both shapes) -/
theorem C11_star_without_all (cfg : Cfg) (st : St) (c : Nat) (h : allOf (st.h.tab c) = none) :
    bindStarC cfg st c = (bindStar st (st.h.tab c), none) := by
  have e : starNames cfg (st.h.tab c) = none := by simp only [starNames, h]; split <;> rfl
  simp only [bindStarC, e]

end PsModel.C11
