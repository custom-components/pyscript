import PsModel.Lemmas.C04
/-!
# C04 – property theorems: state triggers run the function for exactly the qualifying state changes

`cfgs` is the list of all started `@state_trigger` decorators (index = subscription order), `cfgs[i]? = some c` picks
one of them.  A *schedule* is an arbitrary list of atomic steps `Step.op o` (Home Assistant applies an operation and
pyscript's listener fans the event out to the queues) and `Step.deq j` (decorator j's loop takes one message).  The
trigger expression `c.expr` is an arbitrary function of its environment.

Hypotheses that are *not* decoration but delimit where the code as it is satisfies the property:
* `WfCfg c`   – every name of the expression is watched (always true without `watch=`), names have ≤ 4 parts;
* `Primed`    – every entity the expression mentions has been notified once or does not exist (`C04_cex_burst_*`
                shows the race that happens otherwise – both subsystems).
The new subsystem's former side condition `NoExprOK` is gone since fix `5a43b84` (`C04_new_regress_noexpr` keeps the
pre-fix behaviour on record as a theorem about `New.handlePreFix`).
Settled schedules (`settled`) need no priming.
-/
namespace PsModel.C04
open Spec

/-- **Environment equality.**  For every hub state with `notify_var_last` consistent (`Good`) and primed,
every operation that causes an event, and every decorator: the bindings the expression is evaluated on – whenever
the queued message is finally handled, i.e. for EVERY later live state – are the spec environment of that event. -/
theorem C04_env (cfgs : List STCfg) (c : STCfg) (hc : c ∈ cfgs) (wf : WfCfg c) (h h' : Hub) (o : Op) (ev : Ev)
    (ha : Hub.apply cfgs h o = (h', some ev)) (hg : Good cfgs h) (hp : Primed c h) (live : Store) :
    envFor c (mkMsg c h' ev).vars live = Spec.env c h'.live ev := by
  obtain ⟨he, rfl⟩ := apply_some ha
  exact envFor_msg wf (hg.after o) (after_get_new he) (.inl (hp.after hc wf o))

/-- **Environment equality, settled.**  Without priming: if the message is handled before the state machine changes
again, the expression still sees the spec environment (names left unbound are read live, and live = snapshot). -/
theorem C04_env_settled (cfgs : List STCfg) (c : STCfg) (wf : WfCfg c) (h h' : Hub) (o : Op) (ev : Ev)
    (ha : Hub.apply cfgs h o = (h', some ev)) (hg : Good cfgs h) :
    envFor c (mkMsg c h' ev).vars h'.live = Spec.env c h'.live ev := by
  obtain ⟨he, rfl⟩ := apply_some ha
  exact envFor_msg wf (hg.after o) (after_get_new he) (.inr rfl)

/-- an initial system: nothing queued, nothing run yet -/
def start (hub : Hub) : Sys := ⟨hub, fun _ => ⟨[], []⟩, []⟩

/-- **Legacy subsystem, all interleavings.**  From any good, primed hub, along ANY schedule: the runs decorator `i` has
started so far, followed by the runs its queued messages will produce, are exactly the spec's runs of the operations
issued so far – in event order, none lost, none duplicated, each with the kwargs of its own event overridden by the
decorator's `kwargs`. -/
theorem C04_legacy (cfgs : List STCfg) (i : Nat) (c : STCfg) (hi : cfgs[i]? = some c) (wf : WfCfg c) (hub : Hub)
    (hg : Good cfgs hub) (hp : Primed c hub) (steps : List Step) :
    let s := exec Legacy.handle cfgs (start hub) steps
    runsOf i s.log ++ pendRuns Legacy.handle c (s.ts i).q = stRuns c hub.live (opsOf steps) :=
  (exec_spec hi (legacy_handlerOK cfgs c wf) wf (s := start hub) hg hp rfl steps).runs

/-- … hence, once the queue has been drained (any schedule that leaves it empty), runs = spec runs. -/
theorem C04_legacy_quiescent (cfgs : List STCfg) (i : Nat) (c : STCfg) (hi : cfgs[i]? = some c) (wf : WfCfg c)
    (hub : Hub) (hg : Good cfgs hub) (hp : Primed c hub) (steps : List Step)
    (hq : ((exec Legacy.handle cfgs (start hub) steps).ts i).q = []) :
    runsOf i (exec Legacy.handle cfgs (start hub) steps).log = stRuns c hub.live (opsOf steps) := by
  have := C04_legacy cfgs i c hi wf hub hg hp steps
  dsimp only at this
  rw [hq] at this
  exact (List.append_nil _).symm.trans this

/-- **New subsystem, all interleavings** (code after fix `5a43b84`): the same full statement as for legacy. -/
theorem C04_new (cfgs : List STCfg) (i : Nat) (c : STCfg) (hi : cfgs[i]? = some c) (wf : WfCfg c)
    (hub : Hub) (hg : Good cfgs hub) (hp : Primed c hub) (steps : List Step) :
    let s := exec New.handle cfgs (start hub) steps
    runsOf i s.log ++ pendRuns New.handle c (s.ts i).q = stRuns c hub.live (opsOf steps) :=
  New.handle_eq_legacy ▸ C04_legacy cfgs i c hi wf hub hg hp steps

theorem C04_new_quiescent (cfgs : List STCfg) (i : Nat) (c : STCfg) (hi : cfgs[i]? = some c) (wf : WfCfg c)
    (hub : Hub) (hg : Good cfgs hub) (hp : Primed c hub) (steps : List Step)
    (hq : ((exec New.handle cfgs (start hub) steps).ts i).q = []) :
    runsOf i (exec New.handle cfgs (start hub) steps).log = stRuns c hub.live (opsOf steps) :=
  New.handle_eq_legacy ▸ C04_legacy_quiescent cfgs i c hi wf hub hg hp steps (New.handle_eq_legacy ▸ hq)

/-- **Settled histories, legacy**: no priming needed when every operation is handled before the next is issued. -/
theorem C04_legacy_settled (cfgs : List STCfg) (i : Nat) (c : STCfg) (hi : cfgs[i]? = some c) (wf : WfCfg c)
    (hub : Hub) (hg : Good cfgs hub) (ops : List Op) :
    runsOf i (exec Legacy.handle cfgs (start hub) (settled cfgs.length ops)).log = stRuns c hub.live ops :=
  (settled_exec hi (legacy_handlerSettledOK cfgs c wf) ops (start hub) hg fun _ _ => rfl).1

/-- **Settled histories, new subsystem.** -/
theorem C04_new_settled (cfgs : List STCfg) (i : Nat) (c : STCfg) (hi : cfgs[i]? = some c) (wf : WfCfg c)
    (hub : Hub) (hg : Good cfgs hub) (ops : List Op) :
    runsOf i (exec New.handle cfgs (start hub) (settled cfgs.length ops)).log = stRuns c hub.live ops :=
  New.handle_eq_legacy ▸ C04_legacy_settled cfgs i c hi wf hub hg ops

/-- **No other evaluations** (both subsystems, all interleavings): the expression is evaluated exactly for the watched
changes that do not already match an any-change form, on the spec environment – so never for an unwatched entity and
never for an attribute-only update of a value-watched entity (next two theorems spell these out). -/
theorem C04_no_other (h : Handler) (hh : h = Legacy.handle ∨ h = New.handle) (cfgs : List STCfg) (i : Nat) (c : STCfg)
    (hi : cfgs[i]? = some c) (wf : WfCfg c) (hub : Hub) (hg : Good cfgs hub) (hp : Primed c hub)
    (steps : List Step) :
    let s := exec h cfgs (start hub) steps
    (s.ts i).evals ++ pendEvals h c (s.ts i).q = stEvals c hub.live (opsOf steps) := by
  obtain rfl := handler_eq_legacy hh
  exact (exec_spec hi (legacy_handlerOK cfgs c wf) wf (s := start hub) hg hp rfl steps).evals

/-- an event on an entity the decorator does not watch never reaches its queue: no evaluation, no run -/
theorem C04_unwatched_untouched (h : Handler) (cfgs : List STCfg) (i : Nat) (c : STCfg) (hi : cfgs[i]? = some c)
    (s : Sys) (o : Op) (hs : c.subscribed o.e = false) :
    (step h cfgs s (.op o)).ts i = s.ts i ∧ (step h cfgs s (.op o)).log = s.log := by
  cases he : eventOf s.hub.live o with
  | none => rw [step_op_none he]; exact ⟨rfl, rfl⟩
  | some ev =>
    rw [step_op_some he]
    refine ⟨?_, rfl⟩
    dsimp only
    rw [enqueue_at hi, eventOf_some he, hs]
    rfl

/-- an attribute-only update (same state string) of an entity whose VALUE is watched (`d.e` / `d.e.old` names only)
is dequeued and dropped by both loops: no evaluation, no run – whatever the expression and the live state are -/
theorem C04_attr_only_no_eval (c : STCfg) (live : Store) (m : Msg)
    (hsame : m.ev.new.map (·.state) = m.ev.old.map (·.state))
    (hval : ∀ n ∈ c.ident, n.e = m.ev.e → n.rest = [] ∨ n.rest = ["old"])
    (hany : ∀ n ∈ c.anyNames, n.e = m.ev.e → n.rest = []) :
    Legacy.handle c live m = ⟨none, none⟩ ∧ New.handle c live m = ⟨none, none⟩ := by
  have hvc : ¬ valueChanged m.ev := fun h => h hsame
  have hany' : c.anyNames.any (matchesAny m.ev) = false :=
    List.any_eq_false.mpr fun n hn => ne_true_of_eq_false (matchesAny_quiet hvc (hany n hn))
  have hchg : c.ident.any (changes m.ev) = false :=
    List.any_eq_false.mpr fun n hn => ne_true_of_eq_false (changes_quiet hvc (hval n hn))
  rw [New.handle_eq_legacy, and_self]
  rw [Legacy.handle_eq, identAny_eq, identChanged_eq, hany', hchg]
  rfl

/-- **Several decorators on one function**: each decorator is its own trigger (own queue, own loop); the function's
runs are the runs of its decorators.  The statement is about ANY log: projecting the function-level sequence on one
decorator gives that decorator's run sequence – so, with `C04_legacy` / `C04_new` for each decorator, the
function-level sequence is an interleaving of the per-decorator spec sequences (each in event order). -/
theorem C04_multi (cfgs : List STCfg) (i : Nat) (c : STCfg) (hi : cfgs[i]? = some c) (log : List (Nat × Run)) :
    ((log.filter (ofFunc cfgs c.func)).filter (fun p => p.1 == i)).map (·.2) = runsOf i log := by
  unfold runsOf
  rw [List.filter_filter]
  congr 1
  apply List.filter_congr
  intro p _
  by_cases hp : p.1 = i
  · simp [hp, hi, ofFunc]
  · simp [hp]

/-- **Several decorators on one function, settled histories (legacy)**: handled one at a time, the function's runs
start in event order (within one event: decorator order), each with the kwargs of the decorator that fired – the
whole function-level sequence equals the spec's. -/
theorem C04_multi_settled_legacy (cfgs : List STCfg) (hwf : ∀ c ∈ cfgs, WfCfg c) (hub : Hub) (hg : Good cfgs hub)
    (ops : List Op) (f : Nat) :
    funcRuns cfgs f (exec Legacy.handle cfgs (start hub) (settled cfgs.length ops)).log =
      Spec.funcRuns cfgs f hub.live ops := by
  unfold funcRuns Spec.funcRuns
  rw [settled_log (fun c hc => legacy_handlerSettledOK cfgs c (hwf c hc)) ops (start hub) hg fun _ _ => rfl]
  rfl

/-- **Several decorators on one function, settled histories (new subsystem).** -/
theorem C04_multi_settled_new (cfgs : List STCfg) (hwf : ∀ c ∈ cfgs, WfCfg c)
    (hub : Hub) (hg : Good cfgs hub) (ops : List Op) (f : Nat) :
    funcRuns cfgs f (exec New.handle cfgs (start hub) (settled cfgs.length ops)).log =
      Spec.funcRuns cfgs f hub.live ops :=
  New.handle_eq_legacy ▸ C04_multi_settled_legacy cfgs hwf hub hg ops f

/-- **Re-subscription** (both subsystems, all interleavings).  A first life along ANY schedule `life1` (which may end
with operations issued while nobody is subscribed), then every subscriber goes away and comes back (`relife`: fresh
queues; `State.notify` keeps its entries and `State.notify_var_last` its values), then a second life along ANY schedule:
the runs of the second life are exactly the spec's runs of its operations from the snapshot it starts on – in
particular a burst right after re-subscription is evaluated on the values AT each event, because a variable notified
(or recorded while unsubscribed) in the first life is still primed. -/
theorem C04_resubscribed (h : Handler) (hh : h = Legacy.handle ∨ h = New.handle) (cfgs : List STCfg) (i : Nat)
    (c : STCfg) (hi : cfgs[i]? = some c) (wf : WfCfg c) (hub : Hub) (hg : Good cfgs hub) (hp : Primed c hub)
    (life1 life2 : List Step) :
    let s1 := exec h cfgs (start hub) life1
    let s2 := exec h cfgs (relife s1) life2
    runsOf i s2.log ++ pendRuns h c (s2.ts i).q = runsOf i s1.log ++ stRuns c s1.hub.live (opsOf life2) ∧
      (s2.ts i).evals ++ pendEvals h c (s2.ts i).q = (s1.ts i).evals ++ stEvals c s1.hub.live (opsOf life2) := by
  obtain rfl := handler_eq_legacy hh
  have hok := legacy_handlerOK cfgs c wf
  have inv1 := exec_spec hi hok wf (s := start hub) hg hp rfl life1
  have inv2 := exec_spec hi hok wf (s := relife (exec Legacy.handle cfgs (start hub) life1)) inv1.good inv1.primed rfl
    life2
  exact ⟨inv2.runs, inv2.evals⟩

/-- **The keyword arguments of a run depend only on its own decorator and its own event** (both subsystems, all
interleavings, any number of decorators and functions on the same entity): every run in the log of decorator `j` is
`mkRun cⱼ ev` for SOME `ev` (which one the statement leaves open; `Legacy.handle_run`: that of the handled message) –
an event's `trigger_type`, `var_name`, `value`, `old_value` overridden by `cⱼ`'s own `kwargs`, never another
subscriber's (each queue gets its own message, `enqueue`). -/
theorem C04_run_kwargs_own (h : Handler) (hh : h = Legacy.handle ∨ h = New.handle) (cfgs : List STCfg)
    (steps : List Step) :
    ∀ s : Sys, (∀ p ∈ s.log, ∃ c ev, cfgs[p.1]? = some c ∧ p.2 = mkRun c ev) →
      ∀ p ∈ (exec h cfgs s steps).log, ∃ c ev, cfgs[p.1]? = some c ∧ p.2 = mkRun c ev := by
  obtain rfl := handler_eq_legacy hh
  exact log_own (fun _ _ _ _ => Legacy.handle_run) cfgs steps

/-- **kwargs of a run delayed by `state_hold`** (both subsystems): the delayed run receives exactly what an immediate
run for the same event receives – trigger_type, var_name, value, old_value of the event that started the hold,
overridden / extended by the decorator's `kwargs`.  (In the legacy loop this needs BOTH update sites: merging only in
front of `call_action` would deliver the bare event arguments – second part.) -/
theorem C04_held_kwargs (c : STCfg) (ev : Ev) :
    Legacy.heldRun c ev = mkRun c ev ∧ New.heldRun c ev = mkRun c ev ∧
      Legacy.heldRunF false c ev = ⟨ev.ctx, baseArgs ev⟩ :=
  ⟨rfl, rfl, rfl⟩

/-! ## Closed witnesses of the deviations and of the regression fixed by `5a43b84` (replayed on the real code by
`harness/run_C04.py`) -/

def nA : Name := ⟨"pyscript.a", []⟩
def nB : Name := ⟨"pyscript.b", []⟩
def sv (s : String) : Option SVal := some ⟨s, []⟩

/-- `@state_trigger("pyscript.a == '1' and pyscript.b == '0'")` – as an environment function -/
def cexExpr : Env → Bool := fun env =>
  env.lookup nA == some (Val.sv ⟨"1", []⟩) && env.lookup nB == some (Val.sv ⟨"0", []⟩)

def cexCfg : STCfg := ⟨some cexExpr, [nA, nB], [], none, [], 0⟩

def cexBurst : List Step := [.op ⟨"pyscript.a", sv "1", 1⟩, .op ⟨"pyscript.b", sv "5", 2⟩, .deq 0, .deq 0]

/-- `pyscript.b` exists before the trigger starts and has never been notified: a burst `a := 1; b := 5` is evaluated
AFTER both operations, `pyscript.b` is read live (`'5'`) – the run the spec demands for `a := 1` (when `b` was still
`'0'`) is lost.  Same in both subsystems. -/
theorem C04_cex_burst_legacy :
    let s := exec Legacy.handle [cexCfg] (start ⟨[("pyscript.b", sv "0")], []⟩) cexBurst
    (s.ts 0).q = [] ∧ runsOf 0 s.log = [] ∧
      (stRuns cexCfg [("pyscript.b", sv "0")] (opsOf cexBurst)).length = 1 := by
  decide

theorem C04_cex_burst_new :
    let s := exec New.handle [cexCfg] (start ⟨[("pyscript.b", sv "0")], []⟩) cexBurst
    (s.ts 0).q = [] ∧ runsOf 0 s.log = [] ∧
      (stRuns cexCfg [("pyscript.b", sv "0")] (opsOf cexBurst)).length = 1 :=
  New.handle_eq_legacy ▸ C04_cex_burst_legacy

def cexNoExpr : STCfg := ⟨none, [], [nA], some [nA, nB], [], 0⟩

/-- regression (fixed by `5a43b84`): `@state_trigger("pyscript.a", watch=["pyscript.a", "pyscript.b"])` – no
expression, `pyscript.b` watched but not an any-change form.  BEFORE the fix a change of `pyscript.b` ran the function
in the new subsystem (`_is_trig_ok` returned `True` without expression, `New.handlePreFix`); the code as it is now,
the legacy loop and the spec do not. -/
theorem C04_new_regress_noexpr :
    let steps : List Step := [.op ⟨"pyscript.b", sv "5", 1⟩, .deq 0]
    (runsOf 0 (exec New.handlePreFix [cexNoExpr] (start ⟨[], []⟩) steps).log).length = 1 ∧
      runsOf 0 (exec New.handle [cexNoExpr] (start ⟨[], []⟩) steps).log = [] ∧
      runsOf 0 (exec Legacy.handle [cexNoExpr] (start ⟨[], []⟩) steps).log = [] ∧
      stRuns cexNoExpr [] (opsOf steps) = [] := by
  decide

def nC : Name := ⟨"pyscript.c", []⟩

/-- `@state_trigger("pyscript.a != '7' and pyscript.c != '2'", watch=["pyscript.a"])` with `pyscript.c` undefined: the
name is not in `watch`, so `notify_var_get` never binds it to `None`; evaluating it raises `NameError` (`Val.undef`)
instead of reading as `None` – both subsystems. -/
theorem C04_cex_unwatched_undefined :
    let m := mkMsg ⟨none, [nA, nC], [], some [nA], [], 0⟩ ⟨[("pyscript.a", sv "1")], [("pyscript.a", sv "1")]⟩
      ⟨"pyscript.a", sv "1", none, 1⟩
    resolve m.vars [("pyscript.a", sv "1")] nC = Val.undef ∧
      envVal [("pyscript.a", sv "1")] ⟨"pyscript.a", sv "1", none, 1⟩ nC = Val.none := by
  decide

def cexTop : STCfg := ⟨some (fun env => env.lookup nA == some (Val.sv ⟨"2", []⟩)), [nA], [], none, [], 0⟩
def cexBot : STCfg := ⟨some (fun env => env.lookup nA == some (Val.sv ⟨"1", []⟩)), [nA], [], none, [], 0⟩

/-- stacked decorators in a burst: `@state_trigger("pyscript.a == '2'")` over `@state_trigger("pyscript.a == '1'")` on
one function, burst `a := 1; a := 2`.  Each decorator's task drains its whole queue before the next one runs, so the
function starts for `a := 2` (ctx 2) before `a := 1` (ctx 1) – in both subsystems; the spec demands event order. -/
theorem C04_cex_multi_burst_order :
    let steps : List Step :=
      [.op ⟨"pyscript.a", sv "1", 1⟩, .op ⟨"pyscript.a", sv "2", 2⟩, .deq 0, .deq 0, .deq 1, .deq 1]
    (funcRuns [cexTop, cexBot] 0 (exec Legacy.handle [cexTop, cexBot] (start ⟨[], []⟩) steps).log).map (·.ctx) = [2, 1] ∧
      (funcRuns [cexTop, cexBot] 0 (exec New.handle [cexTop, cexBot] (start ⟨[], []⟩) steps).log).map (·.ctx) = [2, 1] ∧
      (Spec.funcRuns [cexTop, cexBot] 0 [] (opsOf steps)).map (·.ctx) = [1, 2] := by
  rw [New.handle_eq_legacy]
  intro steps
  rw [and_self_left]
  decide

/-! ## Tied to the source by extracted flags: `kwargs=None` (with its regression), the hub shapes -/

/-- **`@state_trigger(expr, kwargs=None)`** – the value the documentation shows as the default – **means no extra
keywords** (both subsystems, every history; code since the fix of C04-F5, `… .get("kwargs") or {}`): the function runs for
exactly the qualifying changes, in order, and the expression is evaluated for every delivered watched change. -/
theorem C04_kwargs_none (qs : List Bool) (ctxs : List Nat) (hl : qs.length = ctxs.length) :
    Legacy.kwNoneRuns qs ctxs = ((qs.zip ctxs).filter (·.1)).map (·.2) ∧
      New.kwNoneRuns qs ctxs = ((qs.zip ctxs).filter (·.1)).map (·.2) ∧
      Legacy.kwNoneEvals qs = qs.length ∧ New.kwNoneEvals qs = qs.length ∧ kwOr none = [] := by
  have h1 : Gen.KWARGS_NONE_IS_EMPTY_LEGACY = true := rfl
  have h2 : Gen.KWARGS_NONE_IS_EMPTY_NEW = true := rfl
  unfold Legacy.kwNoneRuns New.kwNoneRuns Legacy.kwNoneEvals New.kwNoneEvals
  rw [h1, h2]
  exact ⟨kwRuns_eq qs ctxs hl, kwRuns_eq qs ctxs hl, rfl, rfl, rfl⟩

/-- regression (C04-F5): BEFORE the fix both subsystems never ran such a function (legacy: the trigger task died with a
`TypeError` at the first qualifying change, after evaluating up to it; new: the decorator was rejected at validation). -/
theorem C04_regress_kwargs_none :
    let qs := [false, true, false, true]
    let ctxs := [1, 2, 3, 4]
    Legacy.kwNoneRunsF false qs ctxs = [] ∧ New.kwNoneRunsF false qs ctxs = [] ∧ Legacy.kwNoneEvalsF false qs = 2 ∧
      New.kwNoneEvalsF false qs = 0 ∧ Legacy.kwNoneRunsF true qs ctxs = [2, 4] ∧ New.kwNoneRunsF true qs ctxs = [2, 4] := by
  decide

/-- **The shapes of `State.update` / `State.notify_del` the hub model relies on**, read off the source on every run
(`tools/extractors/C04.py`): every subscriber queue gets its own copy of `func_args` (`enqueue`, `C04_run_kwargs_own`),
`notify_var_last` is recorded for every key of `State.notify` (`Hub.apply`), and `notify_del` removes only the queue –
the entity's entry and its last value survive a period without subscribers (`relife`, `C04_resubscribed`). -/
theorem C04_hub_shapes : hubShapeOK = true := by decide

/-! ## The witness for `C04_resubscribed`; non-vacuity -/

/-- the situation `C04_resubscribed` excludes, as a closed witness: had the last values been forgotten when the last
subscriber left (hub `⟨live, []⟩` for the second life), the burst `a := 1; b := 5` right after re-subscription would lose
the run for `a := 1` (`b` was still `'0'`) – with the values kept it runs. -/
theorem C04_resubscribed_witness :
    let life1 : List Step := [.op ⟨"pyscript.a", sv "0", 1⟩, .deq 0, .op ⟨"pyscript.b", sv "0", 2⟩, .deq 0]
    let s1 := exec Legacy.handle [cexCfg] (start ⟨[], []⟩) life1
    let burst : List Step := [.op ⟨"pyscript.a", sv "1", 3⟩, .op ⟨"pyscript.b", sv "5", 4⟩, .deq 0, .deq 0]
    (runsOf 0 (exec Legacy.handle [cexCfg] (relife s1) burst).log).map (·.ctx) = [3] ∧
      (runsOf 0 (exec New.handle [cexCfg] (relife (exec New.handle [cexCfg] (start ⟨[], []⟩) life1)) burst).log).map
        (·.ctx) = [3] ∧
      runsOf 0 (exec Legacy.handle [cexCfg] (start ⟨s1.hub.live, []⟩) burst).log = [] := by
  rw [New.handle_eq_legacy]
  intro life1 s1 burst
  rw [and_self_left]
  decide

/-- the operations of `cexBurst` settled one at a time run as the spec demands (non-vacuity of `C04_legacy_settled`) -/
example :
    (runsOf 0 (exec Legacy.handle [cexCfg] (start ⟨[("pyscript.b", sv "0")], []⟩)
      (settled 1 (opsOf cexBurst))).log).length = 1 := by decide

/-- non-vacuity of `C04_run_kwargs_own`: two decorators on one entity, the first with `kwargs` overriding `value` – the
second decorator's run for the same event carries the event's own value -/
example :
    let c1 : STCfg := ⟨none, [], [nA], none, [("value", "forced"), ("tag", "held")], 0⟩
    let c2 : STCfg := ⟨none, [], [nA], none, [], 1⟩
    (exec Legacy.handle [c1, c2] (start ⟨[], []⟩) [.op ⟨"pyscript.a", sv "1", 1⟩, .deq 0, .deq 1]).log =
      [(0, mkRun c1 ⟨"pyscript.a", sv "1", none, 1⟩), (1, mkRun c2 ⟨"pyscript.a", sv "1", none, 1⟩)] :=
  rfl

/-- non-vacuity of the hypotheses of `C04_legacy`: a fresh start where the expression's entities do not exist yet -/
example : Good [cexCfg] ⟨[], []⟩ ∧ Primed cexCfg ⟨[], []⟩ ∧ WfCfg cexCfg := by
  refine ⟨?_, ?_, ⟨?_, ?_⟩⟩
  · intro e v h; simp at h
  · intro n _ _; right; rfl
  · intro n hn; simpa [STCfg.ident, cexCfg] using hn
  · intro n hn
    simp only [cexCfg, List.mem_cons, List.not_mem_nil, or_false] at hn
    rcases hn with rfl | rfl <;> decide

end PsModel.C04
