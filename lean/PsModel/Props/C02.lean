import PsModel.Lemmas.C02
import PsModel.Gen.Handlers
/-!
# C02 – property theorems: control flow and exception handling follow Python's paths

`PS` = the marker-passing evaluator of `eval.py` (as configured by `cfg`), `Py` = the reference outcome semantics.
Equality of `(result, World)` pairs means: same statements executed in the same order (the event log, which includes
every `__enter__`/`__exit__` with its exception info), same tape consumption, same returned value or propagated
exception (class and cause).  All theorems hold for EVERY fuel, nesting depth, subclass relation and tape.
-/
namespace PsModel.C02

deriving instance DecidableEq for Except

def toCall (r : Except Exc (Option Nat) × World) : Option (Except Exc (Option Nat)) × World := (some r.1, r.2)

/-- **Statement level, any cfg.**  On the fragment `confL cfg` the pyscript evaluator and Python agree on every
block, for every fuel / world and every handled-exception context that `except Exception` can have caught (`HOk`). -/
theorem C02_block_partial (cfg : Cfg) (sub : Nat → Nat → Bool) (n : Nat) (h : Option Exc) (ss : List Stmt) (w : World)
    (hok : HOk cfg h) (hc : confL cfg ss = true) : lift (PS.stmts cfg sub n h ss w) = Py.block sub n h ss w :=
  (agree_all cfg sub n).2.1 h ss w hok hc

/-- **Function level, any cfg.**  For function bodies that CPython's compiler accepts (no `break`/`continue` outside
a loop) and that lie in the fragment, calling the function gives the same log, the same returned value or the same
propagated exception. -/
theorem C02_call_partial (cfg : Cfg) (sub : Nat → Nat → Bool) (n : Nat) (body : List Stmt) (w : World)
    (hc : confL cfg body = true) (hs : freeJumpL body = false) :
    toCall (PS.bodyStmts cfg sub n body w) = Py.callBody sub n body w := by
  induction body generalizing w with
  | nil => rfl
  | cons s ss ih =>
    simp only [confL, Bool.and_eq_true] at hc
    simp only [freeJumpL, Bool.or_eq_false_iff] at hs
    simp only [PS.bodyStmts, Py.callBody]
    have hnj := (nj_all sub n).1 none s w hs.1
    rw [← (agree_all cfg sub n).1 none s w (hok_none cfg) hc.1] at hnj ⊢
    generalize PS.exec cfg sub n none s w = r at hnj ⊢
    rcases r with ⟨(_ | m) | e, w'⟩
    · exact ih w' hc.2 hs.2
    · cases m with
      | brk => exact absurd rfl hnj.1
      | cont => exact absurd rfl hnj.2
      | ret v => rfl
    · rfl

def Cfg.python : Cfg := { loopElsePropagates := true, withNested := true, catchesBase := true }

theorem confS_python (cfg : Cfg) (h1 : cfg.loopElsePropagates = true) (h2 : cfg.withNested = true)
    (h3 : cfg.catchesBase = true) : ∀ s, confS cfg s = true :=
  fun s => by rw [confS_eq cfg h1 h2, h3, Bool.true_or]
theorem confL_python (cfg : Cfg) (h1 : cfg.loopElsePropagates = true) (h2 : cfg.withNested = true)
    (h3 : cfg.catchesBase = true) : ∀ ss, confL cfg ss = true :=
  fun ss => by rw [confL_eq cfg h1 h2, h3, Bool.true_or]
theorem confH_python (cfg : Cfg) (h1 : cfg.loopElsePropagates = true) (h2 : cfg.withNested = true)
    (h3 : cfg.catchesBase = true) : ∀ hs, confH cfg hs = true :=
  fun hs => by rw [confH_eq cfg h1 h2, h3, Bool.true_or]

theorem confS_quiet (cfg : Cfg) (h1 : cfg.loopElsePropagates = true) (h2 : cfg.withNested = true) :
    ∀ s, quietS s = true → confS cfg s = true :=
  fun s hq => by rw [confS_eq cfg h1 h2, hq, Bool.or_true]
theorem confL_quiet (cfg : Cfg) (h1 : cfg.loopElsePropagates = true) (h2 : cfg.withNested = true) :
    ∀ ss, quietL ss = true → confL cfg ss = true :=
  fun ss hq => by rw [confL_eq cfg h1 h2, hq, Bool.or_true]
theorem confH_quiet (cfg : Cfg) (h1 : cfg.loopElsePropagates = true) (h2 : cfg.withNested = true) :
    ∀ hs, quietH hs = true → confH cfg hs = true :=
  fun hs hq => by rw [confH_eq cfg h1 h2, hq, Bool.or_true]

/-- **Full statement** for the repaired handlers: with every deviation flag on, every program CPython accepts is
executed exactly as Python executes it (no fragment hypothesis left). -/
theorem C02_full (sub : Nat → Nat → Bool) (n : Nat) (body : List Stmt) (w : World) (hs : freeJumpL body = false) :
    toCall (PS.bodyStmts Cfg.python sub n body w) = Py.callBody sub n body w :=
  C02_call_partial Cfg.python sub n body w (confL_python Cfg.python rfl rfl rfl body) hs

/-- **Today's code** (`Current.cfg`: after the `fix:` commits the loop-else and `with` handlers have their Python shape; what
is left is `except Exception` in `ast_try` / `with_items`, finding C02-F4): every function body that CPython's compiler
accepts and that has no source of a BaseException-only exception (`quietL`) is executed exactly as Python executes it. -/
theorem C02_current (sub : Nat → Nat → Bool) (n : Nat) (body : List Stmt) (w : World) (hq : quietL body = true)
    (hs : freeJumpL body = false) :
    toCall (PS.bodyStmts Current.cfg sub n body w) = Py.callBody sub n body w :=
  C02_call_partial Current.cfg sub n body w (confL_quiet Current.cfg rfl rfl body hq) hs

/-! ### the `finally` clause runs for EVERY way out of the try statement (all programs, all fuel)

`PS.tryPart` is the body / `except` clauses / `else` part of `ast_try` (what sits inside Python's own `try … finally:` there).
Its result may be: nothing, a stop-flow marker, an exception of an ordinary class, or an exception of a BaseException-only
class (task cancellation at a suspension point, SystemExit, …) – the latter passes every `except` clause (C02-F4) but
NOT the `finally` clause. -/

theorem stmts_nil (cfg : Cfg) (sub : Nat → Nat → Bool) (n : Nat) (h : Option Exc) (w : World) :
    PS.stmts cfg sub n h [] w = (.ok none, w) := by
  cases n <;> rfl

/-- **`finally` runs for every outcome (pyscript).**  Whatever the try/except/else part (`PS.tryPart`) produced –
fall-through, break / continue / return markers, exceptions of ordinary AND of BaseException-only classes – the
final body is executed next, in the world that part left, and its completion is combined with the pending result by
`PS.finish` (a marker or exception of the final body replaces the pending one, otherwise the pending one stands). -/
theorem C02_finally_every_outcome (cfg : Cfg) (sub : Nat → Nat → Bool) (n : Nat) (h : Option Exc) (b : List Stmt)
    (hs : List Handler) (o f : List Stmt) (w : World) :
    PS.exec cfg sub (n + 1) h (.try_ b hs o f) w =
      PS.finish (PS.tryPart cfg sub n h b hs o w).1
        (PS.stmts cfg sub n (PS.handlingIn (PS.tryPart cfg sub n h b hs o w).1 h) f (PS.tryPart cfg sub n h b hs o w).2) :=
  rfl

/-- `PS.tryPart` is not an artefact of the statement above: it is the try statement with its `finally` clause removed -/
theorem C02_try_part_is_try_without_finally (cfg : Cfg) (sub : Nat → Nat → Bool) (n : Nat) (h : Option Exc) (b : List Stmt)
    (hs : List Handler) (o : List Stmt) (w : World) :
    PS.exec cfg sub (n + 1) h (.try_ b hs o []) w = PS.tryPart cfg sub n h b hs o w := by
  rw [C02_finally_every_outcome, stmts_nil]
  rfl

/-- the first statement of a `finally` clause is executed (here a tracer: its event is appended to the log left by the
try/except/else part) for every result of that part – there is no case distinction on it at all -/
theorem C02_finally_first_statement (cfg : Cfg) (sub : Nat → Nat → Bool) (k : Nat) (h : Option Exc) (b : List Stmt)
    (hs : List Handler) (o f : List Stmt) (i : Nat) (w : World) :
    PS.exec cfg sub (k + 3) h (.try_ b hs o (.tick i :: f)) w =
      PS.finish (PS.tryPart cfg sub (k + 2) h b hs o w).1
        (PS.stmts cfg sub (k + 1) (PS.handlingIn (PS.tryPart cfg sub (k + 2) h b hs o w).1 h) f
          ((PS.tryPart cfg sub (k + 2) h b hs o w).2.emit (.tick i))) := by
  rw [C02_finally_every_outcome]
  rfl

/-- **BaseException-only exceptions pass the `except` clauses (today, C02-F4) …** no clause expression is evaluated (the
world is the one the body left), the `else` clause is skipped -/
theorem C02_base_passes_handlers (cfg : Cfg) (hcb : cfg.catchesBase = false) (sub : Nat → Nat → Bool) (n : Nat)
    (h : Option Exc) (b : List Stmt) (hs : List Handler) (o : List Stmt) (w w1 : World) (e : Exc)
    (hb : PS.stmts cfg sub n h b w = (.exc e, w1)) (hbase : baseOnly e.cls = true) :
    PS.tryPart cfg sub n h b hs o w = (.exc e, w1) := by
  simp [PS.tryPart, hb, skipsHandlers, hcb, hbase]

/-- **… but not the `finally` clause**: the final body runs with that exception pending (a bare `raise` in it re-raises it,
a `return` / `break` / `continue` in it replaces it) -/
theorem C02_base_runs_finally (cfg : Cfg) (hcb : cfg.catchesBase = false) (sub : Nat → Nat → Bool) (n : Nat)
    (h : Option Exc) (b : List Stmt) (hs : List Handler) (o f : List Stmt) (w w1 : World) (e : Exc)
    (hb : PS.stmts cfg sub n h b w = (.exc e, w1)) (hbase : baseOnly e.cls = true) :
    PS.exec cfg sub (n + 1) h (.try_ b hs o f) w = PS.finish (.exc e) (PS.stmts cfg sub n (some e) f w1) := by
  rw [C02_finally_every_outcome, C02_base_passes_handlers cfg hcb sub n h b hs o w w1 e hb hbase]
  rfl

/-- the reference semantics has the same law (so "the clause runs" means the same thing on both sides) -/
theorem C02_py_finally_every_outcome (sub : Nat → Nat → Bool) (n : Nat) (h : Option Exc) (b : List Stmt)
    (hs : List Handler) (o f : List Stmt) (w : World) :
    Py.exec sub (n + 1) h (.try_ b hs o f) w =
      Py.finish (Py.tryPart sub n h b hs o w).1
        (Py.block sub n (Py.handlingIn (Py.tryPart sub n h b hs o w).1 h) f (Py.tryPart sub n h b hs o w).2) :=
  rfl

/-- a manager is exited when a BaseException-only exception leaves its block, but (today, C02-F4) `__exit__` is called
with `(None, None, None)` and what it returns is ignored; an exception raised by `__exit__` replaces the pending one -/
theorem C02_base_exit_without_info (cfg : Cfg) (hcb : cfg.catchesBase = false) (m : WItem) (e : Exc) (w : World)
    (hbase : baseOnly e.cls = true) :
    PS.withFinish cfg [m] (.exc e, w) =
      ((match m.exitRaises with | some c => .exc { cls := c } | none => .exc e), w.emit (.exit m.id none)) := by
  simp only [PS.withFinish, skipsHandlers, hcb, hbase, exitAll_single, Bool.not_false, Bool.and_self, if_true]
  cases m.exitRaises <;> rfl

/-- the class lattice of the witnesses: 0 = `Exception` (every class that is not BaseException-only), else equality -/
def pySub : Nat → Nat → Bool := fun a b => a == b || (b == 0 && !baseOnly a)

def outcomeCls : Except Exc (Option Nat) → Option Nat
  | .error e => some e.cls
  | .ok _ => none

/-- a task cancelled while it is suspended inside nested try statements inside a loop: both `finally` clauses run (7, 8),
the handler and the `else` clause do not (5, 6), the loop ends, `CancelledError` propagates – exactly as in Python -/
def cancelNested : List Stmt :=
  [.for_ 1 [.try_ [.try_ [.tick 2, .suspend 3, .tick 4] [.mk (some [0]) .plain [.tick 5]] [.tick 6] [.tick 7]] [] [] [.tick 8]] [],
   .tick 9]
theorem C02_cancel_runs_every_finally :
    (PS.bodyStmts Current.cfg pySub 20 cancelNested { tape := [3, 2] }).2.log = [.tick 1, .tick 2, .tick 3, .tick 7, .tick 8] ∧
    outcomeCls (PS.bodyStmts Current.cfg pySub 20 cancelNested { tape := [3, 2] }).1 = some cancelledError ∧
    toCall (PS.bodyStmts Current.cfg pySub 20 cancelNested { tape := [3, 2] }) = Py.callBody pySub 20 cancelNested { tape := [3, 2] } := by
  decide

/-- non-vacuity of `C02_base_passes_handlers` / `C02_base_runs_finally`: a body that ends in a BaseException-only exception -/
example : PS.stmts Current.cfg pySub 5 none [.tick 2, .suspend 3, .tick 4] { tape := [2] }
    = (.exc { cls := cancelledError }, { log := [.tick 2, .tick 3], tape := [] }) ∧ baseOnly cancelledError = true := by decide

/-- `continue` / `return` in a `finally` clause replaces a pending cancellation (as in Python) -/
def cancelReplaced : List Stmt :=
  [.for_ 1 [.try_ [.suspend 2] [] [] [.tick 3, .cont]] [], .try_ [.suspend 4] [] [] [.ret 5]]
theorem C02_jump_in_finally_replaces_cancellation :
    (PS.bodyStmts Current.cfg pySub 20 cancelReplaced { tape := [2, 2, 2, 2] }).2.log
      = [.tick 1, .tick 2, .tick 3, .tick 2, .tick 3, .tick 4] ∧
    toCall (PS.bodyStmts Current.cfg pySub 20 cancelReplaced { tape := [2, 2, 2, 2] })
      = (some (.ok (some 5)), { log := [.tick 1, .tick 2, .tick 3, .tick 2, .tick 3, .tick 4], tape := [] }) ∧
    toCall (PS.bodyStmts Current.cfg pySub 20 cancelReplaced { tape := [2, 2, 2, 2] })
      = Py.callBody pySub 20 cancelReplaced { tape := [2, 2, 2, 2] } := by
  decide

/-! ### C02-F4 (open): what `except Exception` inside the interpreter costs -/

/-- `try: raise B0() except B0: T(1)` – Python catches, pyscript lets it pass -/
def cexBaseHandler : List Stmt := [.try_ [.raise 200 none] [.mk (some [200]) .plain [.tick 1]] [] [.tick 2]]
theorem C02_cex_baseexception_handler :
    (PS.bodyStmts Current.cfg pySub 20 cexBaseHandler {}).2.log = [.tick 2] ∧
    outcomeCls (PS.bodyStmts Current.cfg pySub 20 cexBaseHandler {}).1 = some 200 ∧
    (Py.callBody pySub 20 cexBaseHandler {}).2.log = [.tick 1, .tick 2] := by decide

/-- `with CM(suppress=True): raise B0()` – Python's `__exit__` sees the exception and suppresses it; pyscript calls
`__exit__(None, None, None)` and the exception propagates -/
def cexBaseExit : List Stmt := [.with_ [{ id := 1, suppress := true }] [.raise 200 none], .tick 2]
theorem C02_cex_baseexception_exit :
    (PS.bodyStmts Current.cfg pySub 20 cexBaseExit {}).2.log = [.init 1, .enter 1, .exit 1 none] ∧
    (Py.callBody pySub 20 cexBaseExit {}).2.log = [.init 1, .enter 1, .exit 1 (some 200), .tick 2] := by decide

/-- with `catchesBase` on (the Python configuration) both witnesses agree with the reference – covered by `C02_full` -/
example : toCall (PS.bodyStmts Cfg.python pySub 20 cexBaseHandler {}) = Py.callBody pySub 20 cexBaseHandler {} ∧
    toCall (PS.bodyStmts Cfg.python pySub 20 cexBaseExit {}) = Py.callBody pySub 20 cexBaseExit {} := by decide

/-! ### a pending `return <value>` belongs to the activation that executed it -/

/-- **Return values are per activation.**  With one fresh `EvalReturn` object per execution of a return statement (today's
`ast_return`), for EVERY interleaving of activations of a function – recursion from a finally clause / `__exit__`, other
tasks running the same function while this one is suspended with its return pending – each `EvalFunc.call` returns the
value of the return statement that its own activation executed last. -/
theorem C02_return_value_per_activation (evs : List MEv) : MStore.run .fresh evs = RetSpec.run evs :=
  (minv_run evs {} {} ⟨rfl, nofun, fun _ => rfl⟩).1

/-- non-vacuity / regression witness: with ONE marker object cached per `ast.Return` node the second activation overwrites
the first one's pending value (and, when the consumer clears it, leaves None behind) -/
def twoPending : List MEv := [.ret 1 0 1007, .ret 2 0 2007, .take 1, .take 2]
theorem C02_regress_shared_return_marker :
    MStore.run .fresh twoPending = [(1, some 1007), (2, some 2007)] ∧
    MStore.run (.perNode true) twoPending = [(1, some 2007), (2, none)] ∧
    MStore.run (.perNode false) [.ret 2 0 20, .ret 1 0 10, .take 1, .take 2] = [(1, some 10), (2, some 10)] := by decide

/-- the handlers as they were before the `fix:` commits: agreement only without a jump in a loop's `else` clause, with
single-manager `with` statements whose `__enter__` does not raise, and (as today) without a source of a BaseException-only
exception -/
theorem C02_prefix_partial (sub : Nat → Nat → Bool) (n : Nat) (body : List Stmt) (w : World)
    (hc : confL Cfg.preFix body = true) (hs : freeJumpL body = false) :
    toCall (PS.bodyStmts Cfg.preFix sub n body w) = Py.callBody sub n body w :=
  C02_call_partial Cfg.preFix sub n body w hc hs

/-- **No jump leaks (reference side).**  For accepted bodies a break/continue completion never reaches the function boundary
in the reference semantics: `Py.callBody` never yields `none`.  (On the pyscript side `toCall` is `some` by construction.) -/
theorem C02_marker_inv (sub : Nat → Nat → Bool) (n : Nat) (body : List Stmt) (w : World)
    (hs : freeJumpL body = false) : (Py.callBody sub n body w).1 ≠ none := by
  induction body generalizing w with
  | nil => nofun
  | cons s ss ih =>
    simp only [freeJumpL, Bool.or_eq_false_iff] at hs
    simp only [Py.callBody]
    have hnj := (nj_all sub n).1 none s w hs.1
    generalize Py.exec sub n none s w = r at hnj ⊢
    rcases r with ⟨o, w'⟩
    cases o with
    | normal => exact ih w' hs.2
    | brk => exact absurd rfl hnj.1
    | cont => exact absurd rfl hnj.2
    | ret v => nofun
    | raise e => nofun

/-! ### regression witnesses: the handler shapes removed by the `fix:` commits (`Cfg.preFix`) still deviate -/

def eqSub : Nat → Nat → Bool := fun a b => a == b

/-- `while c: (while c': T(1) else: break); T(2)` – Python leaves the outer loop, pyscript drops the marker -/
def cexLoopElse : List Stmt := [.while_ 10 [.while_ 11 [.tick 1] [.brk], .tick 2] [], .tick 3]
theorem C02_regress_loop_else_break :
    (PS.bodyStmts Cfg.preFix eqSub 20 cexLoopElse { tape := [1, 0, 0] }).2.log ≠ (Py.callBody eqSub 20 cexLoopElse { tape := [1, 0, 0] }).2.log := by decide

/-- `with A, B: raise E` where B suppresses: Python's A sees no exception; pyscript hands the exception to both -/
def cexWithSuppress : List Stmt :=
  [.with_ [{ id := 1 }, { id := 2, suppress := true }] [.raise 7 none], .tick 3]
theorem C02_regress_with_inner_suppression :
    (PS.bodyStmts Cfg.preFix eqSub 20 cexWithSuppress {}).2.log ≠ (Py.callBody eqSub 20 cexWithSuppress {}).2.log := by decide

/-- `with A: …` where `A.__enter__` raises: Python does not call `__exit__`, pyscript does -/
def cexWithEnter : List Stmt := [.with_ [{ id := 1, enterRaises := some 7 }] [.tick 1]]
theorem C02_regress_with_failed_enter_exited :
    (PS.bodyStmts Cfg.preFix eqSub 20 cexWithEnter {}).2.log ≠ (Py.callBody eqSub 20 cexWithEnter {}).2.log := by decide

/-- `with A, B:` – pyscript evaluates both context expressions before entering A -/
def cexWithOrder : List Stmt := [.with_ [{ id := 1 }, { id := 2 }] [.tick 1]]
theorem C02_regress_with_two_managers_order :
    (PS.bodyStmts Cfg.preFix eqSub 20 cexWithOrder {}).2.log ≠ (Py.callBody eqSub 20 cexWithOrder {}).2.log := by decide

/-- a failing store to the `as` target happens inside the guarded region: the manager is exited with that exception and
may suppress it (`with A as (a, b): …` where `A.__enter__()` is not iterable) – the models agree on it by `C02_current`;
this is what it looks like -/
def withBindFails : List Stmt :=
  [.with_ [{ id := 1 }, { id := 2, suppress := true, bindRaises := some 102 }] [.tick 1], .tick 2]
theorem C02_with_bind_failure_is_guarded :
    (PS.bodyStmts Current.cfg eqSub 20 withBindFails {}).2.log
      = [.init 1, .enter 1, .init 2, .enter 2, .exit 2 (some 102), .exit 1 none, .tick 2] ∧
    (PS.bodyStmts Current.cfg eqSub 20 withBindFails {}).2.log = (Py.callBody eqSub 20 withBindFails {}).2.log := by decide

/-- `except` clauses are reached one by one: the type expression of the second clause (a tracer) is not evaluated when the
first clause matches, and a clause whose expression raises replaces the exception – both models agree (`C02_current`);
the `finally` block still runs -/
def lazyClauses : List Stmt :=
  [.try_ [.raise 11 none] [.mk (some [11]) (.tick 1) [.tick 2], .mk (some [12]) (.tick 3) [.tick 4]] [] [.tick 5],
   .try_ [.try_ [.raise 11 none] [.mk (some [12]) (.raises 6 12) [.tick 7], .mk (some [11]) .plain [.tick 8]] [] [.tick 9]]
         [.mk (some [12]) .plain [.tick 10]] [] []]
theorem C02_except_clauses_lazy :
    (PS.bodyStmts Current.cfg eqSub 20 lazyClauses {}).2.log = [.tick 1, .tick 2, .tick 5, .tick 6, .tick 9, .tick 10] ∧
    (PS.bodyStmts Current.cfg eqSub 20 lazyClauses {}).2.log = (Py.callBody eqSub 20 lazyClauses {}).2.log := by decide

/-- an `__exit__` that raises on the clean path is called once, its exception propagates (no second `__exit__` call, no
suppression of its own failure) -/
def exitRaisesClean : List Stmt :=
  [.try_ [.with_ [{ id := 1, suppress := true, exitRaises := some 12 }] [.tick 1], .tick 2] [.mk (some [12]) .plain [.tick 3]] [] []]
theorem C02_clean_exit_raising :
    (PS.bodyStmts Current.cfg eqSub 20 exitRaisesClean {}).2.log = [.init 1, .enter 1, .tick 1, .exit 1 none, .tick 3] ∧
    (PS.bodyStmts Current.cfg eqSub 20 exitRaisesClean {}).2.log = (Py.callBody eqSub 20 exitRaisesClean {}).2.log := by decide

/-- non-vacuity: a program using every construct but a suspension point (which no fragment with `catchesBase` off
contains) lies in the pre-fix fragment and in today's (`quietL`) and is accepted -/
def sample : List Stmt :=
  [.for_ 1 [.try_ [.ite 2 [.raise 5 (some 6)] [.cont], .tick 3] [.mk (some [5]) (.tick 40) [.tick 4, .reraise], .mk none .plain [.brk]]
              [.tick 5] [.tick 6, .assert_ 7]] [.tick 8],
   .with_ [{ id := 1, suppress := true }] [.while_ 9 [.ret 3] []], .ret 4]
example : confL Cfg.preFix sample = true ∧ freeJumpL sample = false ∧ quietL sample = true := by decide

/-- **Tie (translator).**  The statement handlers this model mirrors exist in the extracted source tree (dispatch in
`aeval` is by handler name). -/
theorem C02_handlers_present :
    ∀ h ∈ ["ast_if", "ast_for", "ast_while", "ast_try", "ast_raise", "ast_with", "ast_assert", "ast_break", "ast_continue",
           "ast_return", "ast_pass", "ast_expr", "ast_asyncfor", "ast_asyncwith"], h ∈ Gen.AST_HANDLERS := by
  show (_ : List String) ⊆ _
  simp only [List.cons_subset, List.nil_subset, and_true]
  unfold Gen.AST_HANDLERS
  -- one membership per name, found as its position in the table (`List.Mem.head` / `.tail`), wherever that is: equal literals
  -- unify as they stand, whereas deciding `∈` would unfold two strings to byte arrays at every mismatch
  repeat' constructor

end PsModel.C02
