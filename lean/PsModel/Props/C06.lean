import PsModel.Lemmas.C06
/-!
# C06 – property theorems (time triggers fire at exactly the instants their specification denotes)

`timerNext` mirrors `TrigTime.timer_trigger_next`, `parseDT` mirrors `parse_date_time` (Model/C06, Model/C07).
`IsNext D now r` (Spec/C06): `r` is the least instant of the denoted set `D` strictly after `now`, or `none` if there is none.
`TFlags.current` is the code as it is (since fix c80f3bb the ticks of `period()` are computed with exact timedelta
arithmetic – no assumption about floats is left); `TFlags.preFix` is the float computation before that fix, kept for
`C06_regress_period_float`.
Not covered by an `IsNext` theorem: `period(start, interval, end)` unless start and end are both dated (`C06_period_end_dated`) – in
particular the `day_dither = [-1, 0, 1]` branch of `periodWithEnd` for a time-only start and end; there only `C06_strict` and `C06_min` apply.
Hypotheses that recur: `dayInRange (dayOf now)` – `now` lies in the years 1…9999; `CronForward P` – croniter moves forward.
-/
namespace PsModel.C06
open PsModel.C07

/-! ## calendar and unit table -/

/-- **Calendar round trip.**  Every day number converts to a civil date `datetime(y, m, d)` accepts, and converting that
date back gives the same day number (all of 0001-01-01 … 9999-12-31); weekdays advance by one per day. -/
theorem C06_calendar_roundtrip (z : Int) (hlo : minDay ≤ z) (hhi : z ≤ maxDay) :
    validDate (civilFromDays z).y (civilFromDays z).m (civilFromDays z).d = true ∧
    daysFromCivil (civilFromDays z).y (civilFromDays z).m (civilFromDays z).d = z ∧
    weekday (z + 1) = (weekday z + 1) % 7 := by
  refine ⟨validDate_civilFromDays z hlo hhi, daysFromCivil_civilFromDays z, ?_⟩
  rw [weekday, weekday, Int.add_right_comm, Int.add_emod]
  rfl

/-- **…and back.**  Every civil date `datetime(y, m, d)` accepts converts to a day number whose civil date is the same
(month lengths, leap years and the 400-year rule included). -/
theorem C06_calendar_roundtrip_civil (y m d : Int) (hv : validDate y m d = true) :
    civilFromDays (daysFromCivil y m d) = ⟨y, m, d⟩ :=
  civilFromDays_daysFromCivil y m d hv

/-- **The unit table of `parse_time_offset`** (extracted from the source on every run) is the documented one. -/
theorem C06_units :
    (∀ u ∈ ["", "s", "sec", "second", "seconds"], unitScale u = 1) ∧
    (∀ u ∈ ["m", "min", "mins", "minute", "minutes"], unitScale u = 60) ∧
    (∀ u ∈ ["h", "hr", "hour", "hours"], unitScale u = 3600) ∧
    (∀ u ∈ ["d", "day", "days"], unitScale u = 86400) ∧
    (∀ u ∈ ["w", "week", "weeks"], unitScale u = 604800) ∧
    offUs ⟨true, 15, 1, "hr"⟩ = -5400000000 ∧ offUs ⟨false, 25, 1, "min"⟩ = 150000000 := by
  decide

/-! ## once -/

/-- **`once(time ± offset)` fires every day.**  For every time of day, offset, current time and start-up time the answer is
the earliest daily occurrence strictly after now (the day-offset re-parse always lands on it) – the only exception being the
start-up rule shared with every other form: asked AT start-up, an occurrence equal to the start-up time is announced itself
(full since the fix of C06-F3: the re-parse is suppressed only when `now == this_t == startup_time`, no longer whenever the first
parse merely equals the start-up time; `C06_regress_startup_coincidence`). -/
theorem C06_once_daily (F : TFlags) (hF : F.startupByValue = false) (P : Params) (time : TimeSpec) (x off now st : Int)
    (h : Spec.fixedTod time = some x) (hd : dayInRange (dayOf now)) (hns : ¬ (now = midnight (dayOf now) + x + off ∧ now = st)) :
    ∃ t, timerNext1 F P (.once (.at .none time off)) now st = some (some t) ∧ IsNext (Spec.daily (x + off)) now (some t) :=
  ⟨_, timerNext1_once F P _ now st _ (hF ▸ onceCand_daily P time x off now st _ h hd rfl hns),
    isNext_daily (x + off) (dayOf now) now _ (Int.add_assoc ..)⟩

/-- **`once(now ± offset)`** denotes the single instant start-up ± offset. -/
theorem C06_once_now (F : TFlags) (P : Params) (off now st : Int) (hns : ¬ (now = st + off ∧ now = st)) :
    ∃ r, timerNext1 F P (.once (.now off)) now st = some r ∧ IsNext (Spec.single (st + off)) now r :=
  ⟨_, timerNext1_once_const F P (.now off) now st (st + off) true (fun k => parse_now P.base off k now st) hns, isNext_single _ _⟩

/-- at start-up `once(now)` answers the start-up instant itself -/
theorem C06_once_now_startup (F : TFlags) (P : Params) (st : Int) : timerNext1 F P (.once (.now 0)) st st = some (some st) := by
  rw [timerNext1_once F P _ st st _ (onceCand_const _ P (.now 0) st st (st + 0) true (fun k => parse_now P.base 0 k st st))]
  simp

/-- **`once(Y/M/D time ± offset)`** denotes that single instant. -/
theorem C06_once_full (F : TFlags) (P : Params) (time : TimeSpec) (x off y m d now st : Int) (h : Spec.fixedTod time = some x)
    (hv : validDate y m d = true) (hns : ¬ (now = midnight (daysFromCivil y m d) + x + off ∧ now = st)) :
    ∃ r, timerNext1 F P (.once (.at (.full y m d) time off)) now st = some r ∧
      IsNext (Spec.single (midnight (daysFromCivil y m d) + x + off)) now r :=
  ⟨_, timerNext1_once_const F P _ now st _ true (fun k => parse_full P.base time x off k y m d now st h hv) hns, isNext_single _ _⟩

/-- **`once(weekday time ± offset)`, partial.**  While this week's occurrence (the first such weekday on or after today)
is still ahead, and time ± offset stays inside that day, it is the earliest weekly occurrence after now. -/
theorem C06_once_weekly_partial (F : TFlags) (P : Params) (time : TimeSpec) (x off j now st : Int) (h : Spec.fixedTod time = some x)
    (hd : dayInRange (dayOf now)) (h0 : 0 ≤ j) (h6 : j ≤ 6) (hc0 : 0 ≤ x + off) (hc1 : x + off < usDay)
    (hlt : now < midnight (dayOf now + dowOffset j (weekday (dayOf now))) + (x + off)) :
    ∃ t, timerNext1 F P (.once (.at (.dow j) time off)) now st = some (some t) ∧
      IsNext (Spec.weekly j (x + off)) now (some t) := by
  refine ⟨_, ?_, isNext_weekly j (x + off) now h0 h6 hc1 hlt⟩
  rw [← Int.add_assoc] at hlt ⊢
  exact timerNext1_once_ahead F P _ now st _ true (fun k => parse_dow P.base time x off k j now st h hd) hlt

/-- **`once(M/D time ± offset)`, partial.**  While this year's occurrence is still ahead (and time ± offset stays inside
its day) it is the earliest yearly occurrence after now. -/
theorem C06_once_yearly_partial (F : TFlags) (P : Params) (time : TimeSpec) (x off m d now st : Int) (h : Spec.fixedTod time = some x)
    (hd : dayInRange (dayOf now)) (hv : validDate (civilFromDays (dayOf now)).y m d = true)
    (hc0 : 0 ≤ x + off) (hc1 : x + off < usDay)
    (hlt : now < midnight (daysFromCivil (civilFromDays (dayOf now)).y m d) + (x + off)) :
    ∃ t, timerNext1 F P (.once (.at (.monthDay m d) time off)) now st = some (some t) ∧
      IsNext (Spec.yearly m d (x + off)) now (some t) := by
  refine ⟨_, ?_, isNext_yearly m d (x + off) now hd hc1 hv hlt⟩
  rw [← Int.add_assoc] at hlt ⊢
  exact timerNext1_once_ahead F P _ now st _ true (fun k => parse_monthDay P.base time x off k m d now st h hv) hlt

/-- 2024-06-03 is a Monday; 10:00:01 local time that day -/
def wMon1000 : Int := 1717408801000000

/-- finding C06-F2 (design #16): `once(mon 10:00)` asked on a Monday just after 10:00 answers `none`, although next
Monday 10:00 is denoted. -/
theorem C06_cex_weekly_same_day_after :
    let P : Params := ⟨C07.Params.trivial, fun a p => a / p, fun _ t => t + 1, fun _ => 0⟩
    timerNext1 TFlags.current P (.once (.at (.dow 1) (.hms 10 0 0) 0)) wMon1000 0 = some none ∧
    Spec.weekly 1 (10 * usHour) (midnight (dayOf wMon1000 + 7) + 10 * usHour) ∧
    wMon1000 < midnight (dayOf wMon1000 + 7) + 10 * usHour := by
  refine ⟨by decide, ⟨dayOf wMon1000 + 7, by decide, rfl⟩, by decide⟩

/-- finding C06-F2 (design #16): `once(3/1 10:00)` asked on 1 March 2024 at 10:00:01 answers `none`, although
1 March 2025 10:00 is denoted. -/
theorem C06_cex_yearly_after :
    let P : Params := ⟨C07.Params.trivial, fun a p => a / p, fun _ t => t + 1, fun _ => 0⟩
    let now : Int := 1709287201000000
    timerNext1 TFlags.current P (.once (.at (.monthDay 3 1) (.hms 10 0 0) 0)) now 0 = some none ∧
    Spec.yearly 3 1 (10 * usHour) (midnight (daysFromCivil 2025 3 1) + 10 * usHour) ∧
    now < midnight (daysFromCivil 2025 3 1) + 10 * usHour := by
  refine ⟨by decide, ⟨2025, by decide, rfl⟩, by decide⟩

/-- fixed finding C06-F10 (b7a2f54): before the fix `once(2/29 8:00)` asked on 31 December 2023 raised (`datetime(2023, 2, 29)`
does not exist) and in a list took the other entries with it; the code as it is skips the entry – alone it announces nothing, in a
list the other entry's instant (tomorrow's noon) is announced. -/
theorem C06_regress_feb29_common_year :
    let P : Params := ⟨C07.Params.trivial, fun a p => a / p, fun _ t => t + 1, fun _ => 0⟩
    let now : Int := 1704063540000000
    timerNext1 TFlags.preFixSkip P (.once (.at (.monthDay 2 29) (.hms 8 0 0) 0)) now 0 = none ∧
    timerNext TFlags.preFixSkip P [.once (.at .none .noon 0), .once (.at (.monthDay 2 29) (.hms 8 0 0) 0)] now 0 = none ∧
    timerNext1 TFlags.current P (.once (.at (.monthDay 2 29) (.hms 8 0 0) 0)) now 0 = some none ∧
    timerNext TFlags.current P [.once (.at .none .noon 0), .once (.at (.monthDay 2 29) (.hms 8 0 0) 0)] now 0
      = some ⟨some 1704110400000000, some 1704110400000000⟩ := by
  refine ⟨by decide, by decide, by decide, by decide⟩

/-- fixed finding C06-F9 (b7a2f54): a crontab day that never exists (`cron(0 0 30 2 *)`) – croniter's iterator raises instead of
advancing (here: `cronNext id t = t`, `cronLoop` never gets a positive distance).  Before the fix the whole list raised; the code
as it is skips the entry and announces today's noon, the other entry's instant. -/
theorem C06_regress_cron_impossible_day :
    let P : Params := ⟨C07.Params.trivial, fun a p => a / p, fun _ t => t, fun _ => 0⟩
    timerNext TFlags.preFixSkip P [.cron 0, .once (.at .none .noon 0)] wMon1000 0 = none ∧
    timerNext TFlags.current P [.cron 0, .once (.at .none .noon 0)] wMon1000 0 = some ⟨some 1717416000000000, some 1717416000000000⟩ ∧
    timerNext TFlags.current P [.cron 0] wMon1000 0 = some ⟨none, none⟩ := by
  refine ⟨by decide, by decide, by decide⟩

/-- **An entry that denotes no instant contributes nothing** (since fix b7a2f54, for every list position and accumulator): a
`once(...)` whose date does not exist in the year of `now` (first `parse_date_time` raises `ValueError`), a `cron(...)` whose
iterator raises and (since the fix of C06-F11) a `period(...)` whose start or end date does not exist leave the accumulated answer
as it is – so by `C06_min` the list's answer is the minimum over the OTHER entries. -/
theorem C06_no_instant_skipped (P : Params) (now st : Int) (s : NT) :
    (∀ d : DTSpec, parseDT P.base d 0 now st = none → specStep TFlags.current P now st s (.once d) = some s) ∧
    (∀ id : Nat, cronLoop P id now cronFuel now = none → specStep TFlags.current P now st s (.cron id) = some s) ∧
    (∀ (a : DTSpec) (per : Int) (stop : Option DTSpec), parseDT P.base a 0 now st = none →
        specStep TFlags.current P now st s (.period a per stop) = some s) ∧
    (∀ (a b : DTSpec) (per : Int), parseDT P.base b 0 now st = none →
        specStep TFlags.current P now st s (.period a per (some b)) = some s) := by
  refine ⟨fun d h => ?_, fun id h => ?_, fun a per stop h => ?_, fun a b per h => ?_⟩
  · simp [specStep, onceCand, h, TFlags.current]
  · simp [specStep, h, TFlags.current]
  · simp [specStep, periodStep, h, TFlags.current]
  · simp only [specStep, periodStep]
    cases parseDT P.base a 0 now st with
    | none => simp [TFlags.current]
    | some x => by_cases hp : per ≤ 0 <;> simp [hp, h, TFlags.current]

/-- regression for C06-F11 (fixed; what b7a2f54 had left): the start and end of `period(...)` used to be parsed outside any `try`:
`period(2/29 8:00, 1 h)` / `period(noon, 1 h, 2/29 noon)` asked on 31 December 2023 raised and took the list with them; the code as
it is skips the entry and announces the other entry's instant (tomorrow's noon). -/
theorem C06_regress_period_feb29_common_year :
    let P : Params := ⟨C07.Params.trivial, fun a p => a / p, fun _ t => t + 1, fun _ => 0⟩
    let now : Int := 1704063540000000
    timerNext TFlags.preFixPeriod P [.once (.at .none .noon 0), .period (.at (.monthDay 2 29) (.hms 8 0 0) 0) usHour none] now 0 = none ∧
    timerNext TFlags.preFixPeriod P [.once (.at .none .noon 0), .period (.at .none .noon 0) usHour (some (.at (.monthDay 2 29) .noon 0))] now 0 = none ∧
    timerNext TFlags.current P [.once (.at .none .noon 0), .period (.at (.monthDay 2 29) (.hms 8 0 0) 0) usHour none] now 0
      = some ⟨some 1704110400000000, some 1704110400000000⟩ ∧
    timerNext TFlags.current P [.once (.at .none .noon 0), .period (.at .none .noon 0) usHour (some (.at (.monthDay 2 29) .noon 0))] now 0
      = some ⟨some 1704110400000000, some 1704110400000000⟩ := by
  refine ⟨by decide, by decide, by decide, by decide⟩

/-- regression for C06-F3 (fixed): `once(10:00)` whose trigger was started at exactly 10:00:00.000000 – asked five seconds later the
pre-fix code answered `none` (the `this_t != startup_time` test suppressed the day offset) although tomorrow 10:00 is denoted; the
code as it is answers tomorrow 10:00, and at start-up itself still the start-up instant. -/
theorem C06_regress_startup_coincidence :
    let P : Params := ⟨C07.Params.trivial, fun a p => a / p, fun _ t => t + 1, fun _ => 0⟩
    let st : Int := 1709287200000000
    timerNext1 TFlags.preFixPeriod P (.once (.at .none (.hms 10 0 0) 0)) (st + 5000000) st = some none ∧
    timerNext1 TFlags.current P (.once (.at .none (.hms 10 0 0) 0)) (st + 5000000) st = some (some (st + usDay)) ∧
    timerNext1 TFlags.current P (.once (.at .none (.hms 10 0 0) 0)) st st = some (some st) ∧
    Spec.daily (10 * usHour) (st + usDay) := by
  refine ⟨by decide, by decide, by decide, ⟨dayOf 1709287200000000 + 1, by decide⟩⟩

/-- regression for C06-F3 (fixed) through an offset that crosses midnight: `once(midnight - 12 hour)` started on 2024-10-07 at
12:00:00.000000.  The next morning (06:00) the first parse, today's midnight − 12 h, IS the start-up time: the pre-fix code
suppressed the day-offset re-parse and answered `none`, although today's noon is denoted and still ahead; the code as it is answers
today's noon, the instant it also announces at start-up. -/
theorem C06_regress_startup_coincidence_offset :
    let P : Params := ⟨C07.Params.trivial, fun a p => a / p, fun _ t => t + 1, fun _ => 0⟩
    let st : Int := 1728302400000000
    timerNext1 TFlags.preFixPeriod P (.once (.at .none .midnight (-12 * usHour))) (st + 18 * usHour) st = some none ∧
    timerNext1 TFlags.current P (.once (.at .none .midnight (-12 * usHour))) (st + 18 * usHour) st = some (some (st + usDay)) ∧
    timerNext1 TFlags.current P (.once (.at .none .midnight (-12 * usHour))) st st = some (some (st + usDay)) ∧
    Spec.daily (-12 * usHour) (st + usDay) ∧ st + 18 * usHour < st + usDay := by
  refine ⟨by decide, by decide, by decide, ⟨dayOf 1728302400000000 + 2, by decide⟩, by decide⟩

/-! ## period -/

/-- **`period(start, interval)` with a start that does not move** (full date, or `now ± offset`): the answer is the
earliest `start + n·interval` strictly after now – for every interval > 0 (exact arithmetic since fix c80f3bb: no hypothesis
about the division is left). -/
theorem C06_period_noend (P : Params) (startSpec : DTSpec) (S per now st : Int) (fx : Bool)
    (hS : parseDT P.base startSpec 0 now st = some (S, fx)) (hp : 0 < per) (hns : ¬ (now = S ∧ now = st)) :
    ∃ r, timerNext1 TFlags.current P (.period startSpec per none) now st = some r ∧ IsNext (Spec.progression S per) now r :=
  ⟨_, timerNext1_period_noend TFlags.current P (FloatOK_current P) startSpec S per now st fx hS hp hns,
    isNext_progression S per now hp⟩

/-- the hypothesis `hS` of `C06_period_noend` for a dated start (for `now ± offset` it is `parse_now`) -/
example (P : Params) (time : TimeSpec) (x off y m d now st : Int) (h : Spec.fixedTod time = some x)
    (hv : validDate y m d = true) :
    parseDT P.base (.at (.full y m d) time off) 0 now st = some (midnight (daysFromCivil y m d) + x + off, true) :=
  parse_full P.base time x off 0 y m d now st h hv

/-- **`period(time, interval)` with a time-only start** that is self-consistent (start < interval, interval divides a
day): the answer is the earliest element strictly after now of the one progression `start + n·interval` over all days. -/
theorem C06_period_noend_daily (P : Params) (time : TimeSpec) (x off per k now st : Int)
    (h : Spec.fixedTod time = some x) (hd : dayInRange (dayOf now)) (hp : 0 < per) (hk : usDay = k * per)
    (hs0 : 0 ≤ x + off) (hs1 : x + off < per) (hns : ¬ (now = midnight (dayOf now) + x + off ∧ now = st)) :
    ∃ t, timerNext1 TFlags.current P (.period (.at .none time off) per none) now st = some (some t) ∧
      IsNext (Spec.dailyProgression (x + off) per) now (some t) := by
  have hS := parse_noDate P.base time x off 0 now st h hd
  rw [Int.add_zero, Int.add_assoc] at hS
  have hnow : midnight (dayOf now) ≤ now := by
    have := time_split now; have := todOf_bounds now; omega
  rw [Int.add_assoc] at hns
  exact ⟨_, timerNext1_period_noend TFlags.current P (FloatOK_current P) _ _ per now st false hS hp hns,
    isNext_dailyProgression (x + off) per k (dayOf now) now _ hp hk hs1 hnow (isNext_progression _ per now hp)⟩

/-- **`period(start, interval, end)` with dated start and end**: the earliest `start + n·interval` strictly after now that
is not beyond `end`, or `none`. -/
theorem C06_period_end_dated (P : Params) (startSpec stopSpec : DTSpec) (S E per now st : Int)
    (hS : ∀ k, parseDT P.base startSpec k now st = some (S, true))
    (hEn : ∀ k, parseDT P.base stopSpec k now st = some (E, true)) (hp : 0 < per) (hns : ¬ (now = S ∧ now = st)) :
    ∃ r, timerNext1 TFlags.current P (.period startSpec per (some stopSpec)) now st = some r ∧
      IsNext (Spec.progressionTo S per E) now r := by
  refine ⟨_, ?_, isNext_progressionTo S per E now hp⟩
  have hnp : ¬ per ≤ 0 := Int.not_le.mpr hp
  simp only [timerNext1, specStep, periodStep, hS 0, hEn 0, hnp, if_false, periodWithEnd, Bool.not_true, Bool.and_self,
    Bool.false_eq_true, ditherLoop_dated TFlags.current P (FloatOK_current P) startSpec stopSpec S E per now st true true _ hp
      (hS 0) (hEn 0) hns, Option.map_some]
  split <;> rfl

/-- regression for C06-F1 (design #15, fixed by c80f3bb): `period(2024/6/3 12:00, 0.1s)` asked at 12:00:00.3.  In double
arithmetic `floor(0.3 / 0.1) = 2` (`ieee` below is what IEEE doubles give for these operands), the pre-fix candidate was
12:00:00.3 itself, not after now, the answer `none` – the trigger ended.  The code as it is answers 12:00:00.4. -/
theorem C06_regress_period_float :
    let ieee : Int → Int → Int := fun a p => if a = 300000 ∧ p = 100000 then 2 else a / p
    let P : Params := ⟨C07.Params.trivial, ieee, fun _ t => t + 1, fun _ => 0⟩
    let noon : Int := 1717416000000000
    let spec : TSpec := .period (.at (.full 2024 6 3) (.hms 12 0 0) 0) 100000 none
    timerNext1 TFlags.preFix P spec (noon + 300000) 0 = some none ∧
    timerNext1 TFlags.current P spec (noon + 300000) 0 = some (some (noon + 400000)) ∧
    Spec.progression noon 100000 (noon + 400000) := by
  refine ⟨by decide, by decide, ⟨4, by decide⟩⟩

/-! ## lists, monotonicity, cron -/

/-- **Several specifications: the minimum.**  For every list, the answer is the minimum of the answers of the single
specifications (and it raises iff one of them does). -/
theorem C06_min (F : TFlags) (P : Params) (specs : List TSpec) (now st : Int) :
    (timerNext F P specs now st).map (·.next) = (singles F P now st specs).map (fun l => l.foldl minOpt none) :=
  specsLoop_min F P now st specs ⟨none, none⟩

/-- **Never in the past.**  Whatever the list, an announced instant is strictly after now – or it is the start-up instant
announced at start-up. -/
theorem C06_strict (P : Params) (hC : CronForward P) (specs : List TSpec) (now st : Int) (r : NT) (t : Int)
    (h : timerNext TFlags.current P specs now st = some r) (ht : r.next = some t) : now < t ∨ (t = now ∧ now = st) :=
  specsLoop_future TFlags.current P (FloatOK_current P) hC now st specs ⟨none, none⟩ r (fun _ h' => by simp at h') h t ht

/-- **No instant skipped, none repeated.**  Whenever an answer is "the earliest denoted instant after now" (all theorems
above), asking again anywhere before that instant gives the same answer, and asking at or after it gives a strictly later
one – so successive trigger times strictly increase and hit every denoted instant once. -/
theorem C06_idem {D : Int → Prop} {now now' t : Int} {r' : Option Int} (h : IsNext D now (some t)) :
    (now ≤ now' → now' < t → IsNext D now' r' → r' = some t) ∧
    (t ≤ now' → IsNext D now' r' → ∀ t', r' = some t' → t < t') :=
  ⟨fun h1 h2 h3 => IsNext.unique h3 (IsNext.shift h h1 h2), fun h1 h3 => IsNext.later h3 h1⟩

/-- **The wait-and-fire loops run the function once per denoted instant.**  If from some time on the answers of
`timer_trigger_next` are "the earliest instant of D after now" (the theorems above), then whatever the wake-up latencies –
as long as the clock moves on and no further instant falls inside a latency – the `trigger_time`s of the successive runs
are instants of D, strictly increasing, with no instant of D between two neighbours: none skipped, none repeated. -/
theorem C06_loop (F : TFlags) (P : Params) (specs : List TSpec) (st : Int) (D : Int → Prop) (lat : Nat → Int) (lo : Int)
    (hnext : ∀ now, lo ≤ now → ∃ r, timerNext F P specs now st = some r ∧ IsNext D now r.next)
    (hlat1 : ∀ i, 1 ≤ lat i) (hlat2 : ∀ i t t', D t → D t' → ¬ (t < t' ∧ t' ≤ t + lat i))
    (n : Nat) (now : Int) (hlo : lo ≤ now) : Succs D (timeLoop F P specs st lat n now) :=
  (timeLoop_succs F P specs st D lat lo hnext hlat1 hlat2 n now hlo).1

/-- **startup / shutdown entries.**  For every argument list (any number and order of `"startup"`, `"shutdown"` and time
specifications) both subsystems run the function at definition iff there is a `"startup"` entry or the decorator has no
arguments at all, at removal iff there is a `"shutdown"` entry – a decorator naming only `"shutdown"` does NOT run at
definition – and hand exactly the time specifications, in order, to the wait loop.  (The one place where the subsystems
differ is `@time_trigger()` with empty parentheses: no startup run in legacy.) -/
theorem C06_startup_shutdown (args : Option (List TArg)) (h : args ≠ some []) :
    (Legacy.normalize args).runOnStartup = wantsStartup args ∧ (New.normalize args).runOnStartup = wantsStartup args ∧
    (Legacy.normalize args).runOnShutdown = wantsShutdown args ∧ (New.normalize args).runOnShutdown = wantsShutdown args ∧
    (Legacy.normalize args).specs = specsOf (args.getD []) ∧ (New.normalize args).specs = specsOf (args.getD []) := by
  cases args with
  | none => simp [Legacy.normalize, New.normalize, wantsStartup, wantsShutdown, specsOf]
  | some l =>
    cases l with
    | nil => exact absurd rfl h
    | cons a rest =>
      have e1 := strip_fst .startup (a :: rest)
      have e2 := strip_fst .shutdown (strip .startup (a :: rest)).2
      have e3 := strip_contains_other .startup .shutdown (by decide) (a :: rest)
      have e4 := specsOf_strip .shutdown (by intro s; simp) (strip .startup (a :: rest)).2
      have e5 := specsOf_strip .startup (by intro s; simp) (a :: rest)
      simp only [Legacy.normalize, New.normalize, wantsStartup, wantsShutdown, Option.getD_some, e1, e2, e3, e4, e5, and_self]

/-- the runs of a function over its life: the startup entry first (once, iff wanted), then the loop's instants, the shutdown
entry last (once, iff wanted) -/
theorem C06_startup_shutdown_runs (F : TFlags) (P : Params) (cfg : TrigCfg) (st : Int) (lat : Nat → Int) (n : Nat) :
    (funcRuns F P cfg st lat n).count Run.startup = (if cfg.runOnStartup then 1 else 0) ∧
    (funcRuns F P cfg st lat n).count Run.shutdown = (if cfg.runOnShutdown then 1 else 0) ∧
    (cfg.runOnStartup = true → ∃ l, funcRuns F P cfg st lat n = Run.startup :: l) ∧
    (cfg.runOnShutdown = true → ∃ l, funcRuns F P cfg st lat n = l ++ [Run.shutdown]) := by
  have hat : ∀ (l : List Int) (r : Run), (∀ t, r ≠ Run.at t) → (l.map Run.at).count r = 0 := by
    intro l r hr
    apply List.count_eq_zero.mpr
    intro hmem
    obtain ⟨t, _, ht⟩ := List.mem_map.mp hmem
    exact hr t ht.symm
  have h1 := hat (timeLoop F P cfg.specs st lat n st) Run.startup (by intro t; simp)
  have h2 := hat (timeLoop F P cfg.specs st lat n st) Run.shutdown (by intro t; simp)
  simp only [funcRuns]
  refine ⟨?_, ?_, ?_, ?_⟩
  · cases cfg.runOnStartup <;> cases cfg.runOnShutdown <;> simp [List.count_append, h1]
  · cases cfg.runOnStartup <;> cases cfg.runOnShutdown <;> simp [List.count_append, h2]
  · intro h; simp only [h, if_true]; exact ⟨_, rfl⟩
  · intro h; simp only [h, if_true]; exact ⟨_, rfl⟩

/-- **cron and daylight saving.**  The cron answer is a local time strictly after now whose distance to now in UTC is
positive, and `next_time_adj - now` is exactly that real distance (so the wait is right across a DST change) – whenever the entry
announces anything (an expression whose iterator raises is skipped since b7a2f54: `C06_no_instant_skipped`). -/
theorem C06_cron_dst (F : TFlags) (P : Params) (hC : CronForward P) (id : Nat) (now st : Int) (r : NT)
    (h : specStep F P now st ⟨none, none⟩ (.cron id) = some r) (hn : r.next ≠ none) :
    ∃ val adj, r.next = some val ∧ r.adj = some adj ∧ now < val ∧ 0 < adj - now ∧
      adj - now = (val - P.utcOff val) - (now - P.utcOff now) := by
  simp only [specStep] at h
  cases hc : cronLoop P id now cronFuel now with
  | none =>
    simp only [hc] at h
    split at h
    · simp at h
    · simp only [Option.some.injEq] at h; subst h; exact absurd rfl hn
  | some v =>
    simp only [hc, Option.some.injEq] at h
    subst h
    obtain ⟨h1, h2, h3⟩ := cronLoop_spec P hC id now cronFuel now v.1 v.2 (Int.le_refl _) hc
    have e : now + v.2 - now = v.2 := by rw [Int.add_comm, Int.add_sub_cancel]
    exact ⟨v.1, now + v.2, rfl, rfl, h1, e.symm ▸ h2, e.trans h3⟩

/-! ## the wait across a daylight-saving change (real time vs. wall clock) -/

/-- **The re-check of both loops fires when the wall clock reads the instant.**  After the first sleep both loops (legacy
`trigger_watch`; `TimeTriggerDecorator._cycle` since fix 0421163) compare the wall clock with `time_next` and sleep the
difference.  If the first sleep ended with the wall clock at or before the instant (always the case for cron, whose
`next_time_adj` is the exact real distance, and for once()/period() on a day made longer by a fall-back) and the zone offset
does not change during the remaining wait, the function runs when the wall clock reads `time_next`, at most `slack` before –
whatever `time_next_adj` was.  Holds for every flag value that re-checks against `time_next`, in particular for both loops as they are. -/
theorem C06_wait_on_time (W : WFlags) (hW : W.recheckAdj = false) (hs : 0 ≤ W.slack) (Z : Zone) (next adj r1 : Int) (n : Nat)
    (hle : wallAt Z r1 ≤ next) (hstable : Z.offReal (r1 + (next - wallAt Z r1)) = Z.offReal r1) :
    next - W.slack ≤ wallAt Z (waitFire W Z next adj (n + 1) r1) ∧ wallAt Z (waitFire W Z next adj (n + 1) r1) ≤ next := by
  simp only [waitFire, hW, Bool.false_eq_true, if_false]
  by_cases hlt : wallAt Z r1 + W.slack < next
  · simp only [hlt, if_true]
    have hw : wallAt Z (r1 + (next - wallAt Z r1)) = next := by
      simp only [wallAt] at hstable ⊢
      rw [hstable]; omega
    have hres : next - W.slack ≤ next ∧ next ≤ next := ⟨Int.sub_le_self next hs, Int.le_refl _⟩
    cases n with
    | zero => simpa only [waitFire, hw] using hres
    | succ k =>
      have hno : ¬ next + W.slack < next := Int.not_lt.mpr (Int.le_add_of_nonneg_right hs)
      simpa only [waitFire, hW, Bool.false_eq_true, if_false, hw, hno] using hres
  · simp only [hlt, if_false]
    exact ⟨Int.sub_right_le_of_le_add (Int.not_lt.mp hlt), hle⟩

/-- the two loops as they are: the legacy loop runs the function exactly when the wall clock reads the instant, the new one
at most one microsecond before (`if timeout <= 1e-6: break`) – never a millisecond early, which is what makes the next
computation see a `now` not before the instant (seeded change C06_6 widened that slack to 1 ms and got every instant twice) -/
theorem C06_wait_on_time_both (Z : Zone) (next adj r1 : Int) (n : Nat)
    (hle : wallAt Z r1 ≤ next) (hstable : Z.offReal (r1 + (next - wallAt Z r1)) = Z.offReal r1) :
    wallAt Z (waitFire WFlags.legacy Z next adj (n + 1) r1) = next ∧
    next - 1 ≤ wallAt Z (waitFire WFlags.new Z next adj (n + 1) r1) ∧ wallAt Z (waitFire WFlags.new Z next adj (n + 1) r1) ≤ next := by
  obtain ⟨h1, h2⟩ := C06_wait_on_time WFlags.legacy rfl (by decide) Z next adj r1 n hle hstable
  have h1 : next - 0 ≤ _ := h1
  rw [Int.sub_zero] at h1
  exact ⟨Int.le_antisymm h2 h1, C06_wait_on_time WFlags.new rfl (by decide) Z next adj r1 n hle hstable⟩

/-- America/Los_Angeles around 2024-11-03 09:00 UTC (fall-back): wall clock = real time − 7 h before, − 8 h after -/
def zFall : Zone := ⟨fun r => if r < 1730624400000000 then -25200000000 else -28800000000⟩
/-- … around 2024-03-10 10:00 UTC (spring-forward): − 8 h before, − 7 h after -/
def zSpring : Zone := ⟨fun r => if r < 1710064800000000 then -28800000000 else -25200000000⟩

/-- regression for C06-F5 (new subsystem, fixed by 0421163): `cron(0 6 * * *)`, last run Saturday 2024-11-02 06:00 PDT;
`time_next` = Sunday 06:00, `time_next_adj` = 07:00 (25 real hours).  After the 25 h sleep the wall clock reads 06:00.
`TimeTriggerDecorator._cycle` used to compare it with `time_next_adj`, slept another hour and ran the function when the wall
clock read 07:00; now – like the legacy loop – it compares with `time_next` and runs the function at 06:00. -/
theorem C06_regress_new_cron_fall_back :
    let next : Int := 1730613600000000
    let adj : Int := 1730617200000000
    let r1 : Int := 1730552400000000 + (adj - 1730527200000000)
    wallAt zFall (waitFire WFlags.newPreFix zFall next adj 4 r1) = next + 3600000000 ∧
    wallAt zFall (waitFire WFlags.new zFall next adj 4 r1) = next ∧
    wallAt zFall (waitFire WFlags.legacy zFall next adj 4 r1) = next := by
  decide

/-- finding C06-F6 (both subsystems): `once(06:30)`, last run Saturday 2024-03-09 06:30 PST; `time_next = time_next_adj` =
Sunday 06:30 – the sleep is the naive difference, 24 real hours, but that night has only 23: the wall clock reads 07:30 when
the function runs. -/
theorem C06_cex_once_spring_forward :
    let next : Int := 1710052200000000
    let r1 : Int := 1709994600000000 + (next - 1709965800000000)
    wallAt zSpring (waitFire WFlags.legacy zSpring next next 4 r1) = next + 3600000000 ∧
    wallAt zSpring (waitFire WFlags.new zSpring next next 4 r1) = next + 3600000000 := by
  decide

/-- regression for C06-F8 (new subsystem, fixed): `period(2024/6/3 12:00:01, 5s)` started at 12:00:00.25 on a wall clock that runs 1 ppm
slower than the clock asyncio sleeps on.  The 0.75 s sleep ends with the wall clock at 12:00:00.999999; `timeout <= 1e-6` lets
the function run, the next computation starts from a `now` that is still before 12:00:01 and announces 12:00:01 again: the same
`trigger_time` was dispatched twice (`WFlags.newPreFloor`).  The loop as it is computes from `max(dt_now(), 12:00:01)` and goes on to
12:00:06, like the legacy loop (`actual_now < time_next`: sleeps the last microsecond). -/
theorem C06_regress_new_early_by_one_us_twice :
    let P : Params := ⟨C07.Params.trivial, fun a p => a / p, fun _ t => t + 1, fun _ => 0⟩
    let st : Int := 1717416000250000
    let Z : Zone := ⟨fun x => -(((x - st) * 1 + 500000) / 1000000)⟩
    let spec : TSpec := .period (.at (.full 2024 6 3) (.hms 12 0 1000000) 0) 5000000 none
    (dstLoop WFlags.newPreFloor TFlags.current P [spec] st Z 2 st).map (fun x => (x.1, x.2.1)) =
      [(1717416001000000, 1717416000999999), (1717416001000000, 1717416001000000)] ∧
    (dstLoop WFlags.new TFlags.current P [spec] st Z 2 st).map (fun x => x.1) = [1717416001000000, 1717416006000000] ∧
    (dstLoop WFlags.legacy TFlags.current P [spec] st Z 2 st).map (fun x => (x.1, x.2.1)) =
      [(1717416001000000, 1717416001000000), (1717416006000000, 1717416006000000)] := by
  decide

/-- **The new loop never announces the instant it has just dispatched again** (since the fix of C06-F8): the next computation
starts from `max(dt_now(), time_last)`, so – whatever the wall clock reads at the wake-up, for every zone, slack and list – the next
`trigger_time` is strictly later than the last one, as soon as the wall clock has moved past the start-up time. -/
theorem C06_new_floor_no_repeat (W : WFlags) (hW : W.nowFloor = true) (P : Params) (hC : CronForward P) (specs : List TSpec)
    (st l w : Int) (hw : st < w) (r : NT) (t : Int)
    (h : timerNext TFlags.current P specs (floorNow W (some l) w) st = some r) (ht : r.next = some t) : l < t := by
  have hfl : l ≤ floorNow W (some l) w ∧ w ≤ floorNow W (some l) w := by
    simp only [floorNow, hW, Bool.true_and, decide_eq_true_eq]
    by_cases hc : w < l
    · rw [if_pos hc]; exact ⟨Int.le_refl _, Int.le_of_lt hc⟩
    · rw [if_neg hc]; exact ⟨Int.not_lt.mp hc, Int.le_refl _⟩
  rcases C06_strict P hC specs _ st r t h ht with h1 | ⟨_, h2⟩
  · exact Int.lt_of_le_of_lt hfl.1 h1
  · exact absurd (h2 ▸ hfl.2) (Int.not_le.mpr hw)

/-! ## non-vacuity -/

example : dayInRange (dayOf wMon1000) := by unfold dayInRange; decide

example : CronForward ⟨C07.Params.trivial, fun a p => a / p, fun _ t => t + 1, fun _ => 0⟩ := fun _ t => by
  show t < t + 1
  omega

/-- a list of three specifications evaluated on a Tuesday 09:00: daily 10:00, a period and a weekly entry -/
example :
    let P : Params := ⟨C07.Params.trivial, fun a p => a / p, fun _ t => t + 1, fun _ => 0⟩
    let now : Int := 1717491600000000
    (timerNext TFlags.current P [.once (.at .none (.hms 10 0 0) 0), .period (.at .none (.hms 0 0 0) 0) (6 * usHour) none,
        .once (.at (.dow 1) .noon 0)] now 0).map (·.next) = some (some (now + usHour)) := by
  decide

end PsModel.C06
