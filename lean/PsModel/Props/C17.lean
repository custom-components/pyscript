import PsModel.Lemmas.C17
/-!
# C17 – property theorems (import and builtin restrictions)

Everything is stated over the generated tables `Gen.ALLOWED_IMPORTS`, `Gen.BUILTIN_EXCLUDE`,
`Gen.BUILTIN_AST_FUNCS`, for every environment (files below the pyscript folder, host modules, context kind), every
name, every alias list.
-/
namespace PsModel.C17
open PsModel

/-- **`import` follows the reference exactly** (deny and allow in one statement): a single `import name [as x]`
does what `specImport1` says, where "allowed" is `Importable` – pyscript module visible, or the whole dotted name on
the allow-list, or `allow_all_imports`. -/
theorem C17_import_spec (env : Env) (a : Alias) (σ : Bindings) (allowed : Bool)
    (h : allowed = true ↔ Importable env a.name) :
    execImport env [a] σ = specImport1 env allowed a σ := by
  cases allowed with
  | true =>
    rw [execImport, (resolve_eq env a.name).trans (if_pos (h.1 rfl))]
    cases ht : target env a.name <;> simp only [specImport1, ht] <;> rfl
  | false =>
    rw [execImport, (resolve_eq env a.name).trans (if_neg fun x => Bool.noConfusion (h.2 x))]
    rfl

/-- **Deny, every statement form.**  Without `allow_all_imports`, for a name that is not on the allow-list and not a
visible pyscript module: `import name`, `import name as x`, `import …, name, …` at any position, and every
non-relative `from name import …` (any names, `*`, `as`; `name` not `stubs`/`stubs.…`) raise the "not allowed"
ModuleNotFoundError; the symbol table keeps exactly what it had (plus what earlier names of the same `import` list had
bound), and the host's import system is never asked (the result does not depend on `env.host`). -/
theorem C17_deny (env : Env) (name : String) (hflag : env.allowAll = false) (hlist : name ∉ Gen.ALLOWED_IMPORTS)
    (hpys : pysLookup env name = none) (asn : Option String) (σ : Bindings) :
    (∀ rest, execImport env (⟨name, asn⟩ :: rest) σ = { binds := σ, err := some .notAllowed }) ∧
    (∀ pre rest, (execImport env pre σ).err = none →
        execImport env (pre ++ ⟨name, asn⟩ :: rest) σ =
          { binds := (execImport env pre σ).binds, err := some .notAllowed }) ∧
    (isStubs name = false → ∀ names, execImportFrom env (some name) 0 names σ = { binds := σ, err := some .notAllowed }) := by
  have hres : resolve env name = .error .notAllowed := by
    refine (resolve_eq env name).trans (if_neg ?_)
    rintro (h | h | h)
    · rw [hpys] at h; cases h
    · exact hlist h
    · rw [hflag] at h; cases h
  refine ⟨fun rest => by rw [execImport, hres], fun pre rest hpre => ?_, fun hs names => ?_⟩
  · rw [execImport_append, if_pos hpre, execImport, hres]
  · simp [execImportFrom, findFrom, hs, hres]

/-- **Allow.**  A visible pyscript module wins whatever the flag, the allow-list or the host say (the lookup
precedes the check); otherwise an allow-listed name, or any name under `allow_all_imports`, binds the host's module
under the dotted name or the `as` name; `from … import` then binds exactly the requested attributes. -/
theorem C17_allow (env : Env) (name : String) (m : ModInfo) (asn : Option String) (σ : Bindings)
    (h : pysLookup env name = some m ∨
         (pysLookup env name = none ∧ (name ∈ Gen.ALLOWED_IMPORTS ∨ env.allowAll = true) ∧ env.host name = some m)) :
    execImport env [⟨name, asn⟩] σ = { binds := σ ++ [(asn.getD name, .mod m.id)], err := none } ∧
    (isStubs name = false → ∀ names, execImportFrom env (some name) 0 names σ = bindFrom m names σ) := by
  have hres : resolve env name = .ok m := by
    rcases h with h | ⟨h1, h2, h3⟩
    · rw [resolve_eq, if_pos (.inl (by rw [h]; rfl)), target, h]
    · rw [resolve_eq, if_pos (.inr h2), target, h1, h3]
  refine ⟨by rw [execImport, hres]; rfl, fun hs names => ?_⟩
  simp [execImportFrom, findFrom, hs, hres]

/-- what a permitted from-import binds: only attributes of that module, a `*` never a name starting with `_`, and
older bindings are kept -/
theorem C17_from_binds (m : ModInfo) (names : List Alias) (σ : Bindings) :
    ∃ τ, (bindFrom m names σ).binds = σ ++ τ ∧
      ∀ kv ∈ τ, ∃ a ∈ names, ∃ n ∈ m.attrs, kv.2 = .attr m.id n ∧
        ((a.name = "*" ∧ kv.1 = n ∧ n.front ≠ '_') ∨ (a.name ≠ "*" ∧ a.name = n ∧ kv.1 = a.key)) := by
  induction names generalizing σ with
  | nil => exact ⟨[], (List.append_nil σ).symm, fun _ h => absurd h List.not_mem_nil⟩
  | cons a rest ih =>
    rw [bindFrom]
    by_cases hs : a.name = "*"
    · rw [if_pos hs]
      obtain ⟨τ, hτ, hall⟩ := ih (σ ++ (m.attrs.filter (fun n => n.front != '_')).map (fun n => (n, Val.attr m.id n)))
      refine ⟨_ ++ τ, hτ.trans (List.append_assoc ..), fun kv hkv => ?_⟩
      rcases List.mem_append.1 hkv with h | h
      · obtain ⟨n, hn, rfl⟩ := List.mem_map.1 h
        obtain ⟨hn1, hn2⟩ := List.mem_filter.1 hn
        exact ⟨a, List.mem_cons_self, n, hn1, rfl, .inl ⟨hs, rfl, bne_iff_ne.1 hn2⟩⟩
      · exact (hall kv h).imp fun _ r => ⟨List.mem_cons_of_mem _ r.1, r.2⟩
    · rw [if_neg hs]
      by_cases hc : m.attrs.contains a.name = true
      · rw [if_pos hc]
        obtain ⟨τ, hτ, hall⟩ := ih (σ ++ [(a.key, .attr m.id a.name)])
        refine ⟨_ :: τ, hτ.trans (List.append_assoc ..), fun kv hkv => ?_⟩
        rcases List.mem_cons.1 hkv with rfl | h
        · exact ⟨a, List.mem_cons_self, a.name, List.contains_iff_mem.1 hc, rfl, .inr ⟨hs, rfl, rfl⟩⟩
        · exact (hall kv h).imp fun _ r => ⟨List.mem_cons_of_mem _ r.1, r.2⟩
      · rw [if_neg hc]
        exact ⟨[], (List.append_nil σ).symm, fun _ h => absurd h List.not_mem_nil⟩

example : Gen.ALLOWED_IMPORTS ≠ [] := by decide
example : "__no_such_module__" ∉ Gen.ALLOWED_IMPORTS := by simp [Gen.ALLOWED_IMPORTS]

/-- a refusal, a pyscript module shadowing a refused host module, and an allow-listed import, on concrete input -/
example :
    let host : String → Option ModInfo := fun n => some { id := "host:" ++ n, attrs := ["pi", "_x"] }
    let env0 : Env := { allowAll := false, relPath := none, ctxName := "file.t", files := [], host := host }
    let env1 : Env := { env0 with files := [("modules/os.py", { id := "pys:os", attrs := ["x"] })] }
    execImport env0 [⟨"os", none⟩] [] = { binds := [], err := some .notAllowed } ∧
    execImport env1 [⟨"os", some "o"⟩] [] = { binds := [("o", .mod "pys:os")], err := none } ∧
    execImportFrom env0 (some "math") 0 [⟨"*", none⟩] [] = { binds := [("pi", .attr "host:math" "pi")], err := none } := by
  decide

/-- **No prefix / suffix / parent matching.**  The allow test is membership of the WHOLE dotted name: any extension
of an allow-listed name (`json.evil`, `re2`), and any proper part of one (`homeassistant` for `homeassistant.const`),
is refused unless it is itself on the list. -/
theorem C17_no_prefix (env : Env) (hflag : env.allowAll = false) (a s : String) (σ : Bindings) (asn : Option String) :
    (a ∈ Gen.ALLOWED_IMPORTS → (a ++ s) ∉ Gen.ALLOWED_IMPORTS → pysLookup env (a ++ s) = none →
      execImport env [⟨a ++ s, asn⟩] σ = { binds := σ, err := some .notAllowed }) ∧
    ((a ++ s) ∈ Gen.ALLOWED_IMPORTS → a ∉ Gen.ALLOWED_IMPORTS → pysLookup env a = none →
      execImport env [⟨a, asn⟩] σ = { binds := σ, err := some .notAllowed }) ∧
    (pysLookup env a = none → ((execImport env [⟨a, asn⟩] σ).err = some .notAllowed ↔ a ∉ Gen.ALLOWED_IMPORTS)) := by
  refine ⟨?_, ?_, ?_⟩
  · intro _ h2 h3; exact (C17_deny env (a ++ s) hflag h2 h3 asn σ).1 []
  · intro _ h2 h3; exact (C17_deny env a hflag h2 h3 asn σ).1 []
  · intro h3
    refine ⟨fun herr hmem => ?_, fun h2 => by rw [(C17_deny env a hflag h2 h3 asn σ).1 []]⟩
    -- an allow-listed name gets past the test: whatever follows, the error is not the refusal
    rw [execImport, resolve_eq, if_pos (.inr (.inl hmem))] at herr
    cases ht : target env a <;> rw [ht] at herr <;> cases herr

/-- **`from stubs… import` is ignored** – in every environment, relative or not: nothing is bound, nothing is looked
up; only the `as` form is rejected. -/
theorem C17_stubs_ignored (env : Env) (mname : String) (hs : isStubs mname = true) (level : Nat) (names : List Alias)
    (σ : Bindings) :
    execImportFrom env (some mname) level names σ =
      if names.any (fun a => a.asname.isSome) then { binds := σ, err := some .stubsAs } else { binds := σ, err := none } := by
  simp [execImportFrom, hs]

/-- **Relative imports stay inside the package, or obey the allow test.**  For `from .…m import …` with one or more
leading dots exactly one of four things happens: the module is a file below the importing package and its names are
bound; the context has no parent package (ImportError); the dots climb out of the package (ImportError); or no such
file exists and the BARE name `m` is treated like an absolute import – allow test first, then the host. -/
theorem C17_relative (env : Env) (mname : String) (level : Nat) (hl : level ≠ 0) (hs : isStubs mname = false)
    (names : List Alias) (σ : Bindings) :
    execImportFrom env (some mname) level names σ =
      match relLookup env level mname with
      | .found m => bindFrom m names σ
      | .noParent => { binds := σ, err := some .relNoParent }
      | .above => { binds := σ, err := some .relAbove }
      | .missing =>
        match hostImport env mname with
        | .ok m => bindFrom m names σ
        | .error e => { binds := σ, err := some e } := by
  simp only [execImportFrom, hs, Bool.false_eq_true, if_false, findFrom, hl]
  cases relLookup env level mname <;> simp only []
  cases hostImport env mname <;> rfl

/-- hence a relative from-import of a name that is neither allow-listed nor found below the package binds nothing
and fails, whatever the host has – in particular the host is never asked -/
theorem C17_relative_deny (env : Env) (mname : String) (level : Nat) (hl : level ≠ 0) (hs : isStubs mname = false)
    (hflag : env.allowAll = false) (hlist : mname ∉ Gen.ALLOWED_IMPORTS)
    (hnf : ∀ m, relLookup env level mname ≠ .found m) (names : List Alias) (σ : Bindings) :
    (execImportFrom env (some mname) level names σ).binds = σ ∧
    ((execImportFrom env (some mname) level names σ).err = some .relNoParent ∨
     (execImportFrom env (some mname) level names σ).err = some .relAbove ∨
     (execImportFrom env (some mname) level names σ).err = some .notAllowed) := by
  rw [C17_relative env mname level hl hs]
  cases h : relLookup env level mname with
  | found m => exact absurd h (hnf m)
  | noParent => simp
  | above => simp
  | missing =>
    have : hostImport env mname = .error .notAllowed := by
      rw [hostImport_eq, if_neg (by rw [hflag]; simp [hlist])]
    simp [this]

/-- a module found by a relative import is one of the files below the pyscript folder -/
theorem C17_relative_found_is_file (env : Env) (level : Nat) (name : String) (m : ModInfo)
    (h : relLookup env level name = .found m) : ∃ p, lookupFile env.files p = some m :=
  (relLookup_found h).elim fun _ => firstFile_some _ _ _

/-- **Same verdicts through `exec`**, at any nesting depth, and inside a function, a class body, a `try` or
`eval("exec(…)")`: the statement inside behaves as if written directly. -/
theorem C17_eval_exec (env : Env) (p : Prog) (σ : Bindings) : run env p σ = execStmt env p.inner σ := by
  induction p with
  | stmt s => rfl
  | exec p ih => exact ih
  | within w p ih => exact ih

/-- **The option is read when the statement executes, not when the context was made.**  In a sequence of statements run
by one long-lived evaluator with the option changed in between (any values, any number of changes), every step does
exactly what a fresh run under the option value OF THAT MOMENT does on the symbol table the earlier steps left. -/
theorem C17_option_is_live (env : Env) (pre rest : List (Bool × Prog)) (a : Bool) (p : Prog) (σ : Bindings) :
    runSeq env (pre ++ (a, p) :: rest) σ =
      runSeq env pre σ ++ run { env with allowAll := a } p (seqBinds env pre σ) ::
        runSeq env rest (run { env with allowAll := a } p (seqBinds env pre σ)).binds := by
  rw [runSeq_append]
  rfl

/-- hence a refused name is refused in every import form as soon as the option is off – whatever the option was when
the context was created or during earlier statements (in particular after `true → false`), binding nothing new; and
with the option on the same statement imports (`false → true`). -/
theorem C17_deny_after_option_change (env : Env) (pre : List (Bool × Prog)) (name : String)
    (hlist : name ∉ Gen.ALLOWED_IMPORTS) (hpys : pysLookup env name = none) (asn : Option String) (σ : Bindings) :
    (runSeq env (pre ++ [(false, .stmt (.imp [⟨name, asn⟩]))]) σ).getLast? =
      some { binds := seqBinds env pre σ, err := some .notAllowed } ∧
    (isStubs name = false → ∀ names,
      (runSeq env (pre ++ [(false, .stmt (.impFrom (some name) 0 names))]) σ).getLast? =
        some { binds := seqBinds env pre σ, err := some .notAllowed }) ∧
    (∀ m, env.host name = some m →
      (runSeq env (pre ++ [(true, .stmt (.imp [⟨name, asn⟩]))]) σ).getLast? =
        some { binds := seqBinds env pre σ ++ [(asn.getD name, .mod m.id)], err := none }) := by
  have hd := C17_deny { env with allowAll := false } name rfl hlist hpys asn (seqBinds env pre σ)
  have last (a : Bool) (p : Prog) :
      (runSeq env (pre ++ [(a, p)]) σ).getLast? = some (run { env with allowAll := a } p (seqBinds env pre σ)) := by
    rw [runSeq_append]
    exact List.getLast?_concat
  refine ⟨?_, fun hs names => ?_, fun m hm => ?_⟩ <;> rw [last]
  · exact congrArg some (hd.1 [])
  · exact congrArg some (hd.2.2 hs names)
  · exact congrArg some (C17_allow { env with allowAll := true } name m asn _ (.inr ⟨hpys, .inr rfl, hm⟩)).1

/-- non-vacuity: `import os` is permitted while the option is on, refused by the SAME evaluator after it was switched
off (the earlier binding stays), and `from os import *` binds nothing then -/
example :
    let host : String → Option ModInfo := fun n => some { id := "host:" ++ n, attrs := ["getcwd", "_x"] }
    let env : Env := { allowAll := true, relPath := none, ctxName := "file.t", files := [], host := host }
    runSeq env [(true, .stmt (.imp [⟨"os", none⟩])), (false, .stmt (.imp [⟨"os", some "o"⟩])),
                (false, .exec (.stmt (.impFrom (some "os") 0 [⟨"*", none⟩])))] [] =
      [{ binds := [("os", .mod "host:os")], err := none }, { binds := [("os", .mod "host:os")], err := some .notAllowed },
       { binds := [("os", .mod "host:os")], err := some .notAllowed }] := by
  intro host env
  have hos : "os" ∉ Gen.ALLOWED_IMPORTS := by simp [Gen.ALLOWED_IMPORTS]
  have ha := (C17_allow { env with allowAll := true } "os" _ none [] (.inr ⟨rfl, .inr rfl, rfl⟩)).1
  have hd := fun asn σ => C17_deny { env with allowAll := false } "os" rfl hos rfl asn σ
  simp only [runSeq, run, execStmt, ha, (hd _ _).1, (hd none _).2.2 (by decide)]
  simp

/-- **Excluded builtins are never the host's.**  For every name in `BUILTIN_EXCLUDE`, and every name starting with
`_` (`__import__`, `__builtins__`, …), plain-name lookup never yields the host builtin, whatever else is defined. -/
theorem C17_builtins (ne : NameEnv) (x : String) (h : x ∈ Gen.BUILTIN_EXCLUDE ∨ x.front = '_') :
    lookupName ne x ≠ .host :=
  fun hh => h.elim (lookupName_host hh).2.1 (lookupName_host hh).2.2

/-- a name that the enclosing function declares `global` is looked up in the global symbol table only: it can never be
a host builtin, whatever the name -/
theorem C17_builtins_global_declared (ne : NameEnv) (x : String) :
    lookupGlobalDeclared ne x ≠ .host := by
  unfold lookupGlobalDeclared; split <;> simp

/-- the builtins the property names are in the extracted exclude set (checked against the code's table on every run) -/
theorem C17_named_excluded : ∀ x ∈ namedExcluded, x ∈ Gen.BUILTIN_EXCLUDE := by
  simp [namedExcluded, Gen.BUILTIN_EXCLUDE]

/-- **`print` is the pyscript function** (the script logger's `debug`) whenever the script has not rebound it and
`Function.get("print")` finds it; and pyscript's own `eval`/`exec`/`globals`/`locals` shadow the host's. -/
theorem C17_print_and_own (ne : NameEnv) :
    (ne.user "print" = false → ne.func "print" = true → lookupName ne "print" = .pyscriptFunc) ∧
    (∀ x ∈ Gen.BUILTIN_AST_FUNCS, ne.user x = false → lookupName ne x = .astFactory) := by
  constructor
  · intro h1 h2
    have e1 : "print" ∉ Gen.BUILTIN_AST_FUNCS := by simp [Gen.BUILTIN_AST_FUNCS]
    have e2 : "print" ∈ Gen.BUILTIN_EXCLUDE := by simp [Gen.BUILTIN_EXCLUDE]
    simp [lookupName, h1, h2, e1, e2]
  · intro x hx hu
    simp [lookupName, hu, hx]

end PsModel.C17
