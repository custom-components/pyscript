import PsModel.Lemmas.C14
import PsModel.Props.C13
/-!
# C14 – property theorems: every run is an independent task whose exit always cleans up

`run cfg ops` is the state of `function.py`'s registries after the atomic steps `ops` (any number of tasks, any
interleaving of task creation, body segments, `task.add_done_callback` / `remove_done_callback` / `task.cancel` /
`task.unique`, reaper deliveries, and the step-by-step `finally` of `run_coro`).  `current` is the code as it is now
(after the `fix:` commits e4231d2, 83f57a2, f683cd7, 48c341a, a0b69d9, e8a0175, 32185a9, ca978a8 of /repo), `preFix` the
code before them; the `_regress_` theorems show that the pre-fix configuration reproduces the fixed defects and the
current one does not.  Theorems over `run cfg ops` are read off the invariants of `Lemmas/C14` (`invR_run`, `invC_run`,
`invL_run`, `invS_run`), together one induction over `ops`.
-/
namespace PsModel.C14
open PsModel.C13 (Task upd upd_same upd_other upd_apply MapsInv)

set_option linter.unusedSectionVars false
variable {κ : Type} [DecidableEq κ]

/-- what `C14_independent` compares of one task.  Not everything the model holds about it: `withCtx`, `iterSize`,
`inCb`, `atEnd`, `touched`, `cbRaised`, `stillborn`, `u.started` are left out (`LMove.frame` gives them as well). -/
def view (s : St κ) (b : Task) :=
  (s.phase b, s.outcome b, s.result b, s.cb b, s.hctx b, s.idx b, s.loopDone b, s.leaked b, s.bailed b,
   s.u.ours b, s.u.live b, s.u.names b, s.u.entry b, s.u.cancelReq b, s.u.parked b)

/-- **Independence.**  Whatever happens in the life cycle of task `a` – its start, its body returning, raising or being
cancelled, each of its done-callbacks (starting, returning, raising, cancelled), its clean-up or an aborted `finally` –
the `view` of no other task changes: `b` is neither delayed (not parked, nothing queued for it, no cancel delivered) nor
terminated, and none of its callbacks runs.  (A task that sleeps or waits takes no step at all.) -/
theorem C14_independent (cfg : Cfg) (s : St κ) (op : Op κ) (a b : Task)
    (hop : lifecycleOf op = some a) (hb : b ≠ a) :
    view (step cfg s op) b = view s b ∧ ranOf (step cfg s op) b = ranOf s b ∧
    (step cfg s op).u.reaperQ = s.u.reaperQ := by
  have m := lifecycle_move cfg s op a hop
  have f := m.frame hb
  refine ⟨?_, f.ran, m.queue⟩
  simp only [view, f.phase, f.outcome, f.result, f.cb, f.hctx, f.idx, f.loopDone, f.leaked, f.bailed, f.u.ours,
    f.u.live, f.u.names, f.u.entry, f.u.cancelReq, f.u.parked]

/-- **Callbacks, safety part (all schedules, all faults, every configuration).**  The callbacks that ran for a task are a
prefix of its callback list at the end of its body – registration order, latest arguments, removed ones never, and
(the keys being distinct) no function twice.  With the repaired snapshot iteration this needs no proviso; with the
pre-fix live-dict iteration it holds as long as nobody adds/removes callbacks of a task whose `finally` already runs. -/
theorem C14_callbacks_prefix (cfg : Cfg) (ops : List (Op κ)) (t : Task)
    (hp : (run cfg ops).phase t = .finalizing ∨ (run cfg ops).phase t = .done)
    (ht : cfg.snapshotIter = true ∨ (run cfg ops).touched t = false) :
    ranOf (run cfg ops) t = (specRan (run cfg ops) t).take ((run cfg ops).idx t) ∧
    ((specRan (run cfg ops) t).map (·.1)).Nodup :=
  ⟨((invC_run cfg ops t).ran hp ht).1, (invC_run cfg ops t).atEndKeys⟩

/-- before a task's body has ended none of its callbacks has run -/
theorem C14_callbacks_not_early (cfg : Cfg) (ops : List (Op κ)) (t : Task)
    (hp : (run cfg ops).phase t = .none ∨ (run cfg ops).phase t = .created ∨ (run cfg ops).phase t = .running) :
    ranOf (run cfg ops) t = [] :=
  (invC_run cfg ops t).pre hp

/-- **Callbacks, exactly once – for every configuration.**  A finished task whose callback loop was not left by an
exception ran every callback exactly once, provided (pre-fix `break` only) none of them raised and (pre-fix live-dict
iteration only) its dict was not modified while its `finally` ran. -/
theorem C14_callbacks_partial (cfg : Cfg) (ops : List (Op κ)) (t : Task)
    (hd : (run cfg ops).phase t = .done) (hb : (run cfg ops).bailed t = none)
    (ht : cfg.snapshotIter = true ∨ (run cfg ops).touched t = false)
    (hr : cfg.cbContinues = true ∨ (run cfg ops).cbRaised t = false) :
    ranOf (run cfg ops) t = specRan (run cfg ops) t := by
  have hc := invC_run cfg ops t
  obtain ⟨a, _⟩ := hc.ran (Or.inr hd) ht
  have := hc.full hd ht hb hr
  rw [a, this]; exact List.take_length

/-- **Callbacks, exactly once – the code as it is now.**  Every finished task ran each callback registered at the end
of its body exactly once, in order, with its latest arguments – whether or not callbacks raised or (de)registered
callbacks meanwhile – unless a cancellation was delivered inside one of its callbacks (`bailed`, see
`C14_cancel_inside_callback`). -/
theorem C14_callbacks_current (ops : List (Op κ)) (t : Task)
    (hd : (run current ops).phase t = .done) (hb : (run current ops).bailed t = none) :
    ranOf (run current ops) t = specRan (run current ops) t :=
  C14_callbacks_partial current ops t hd hb (Or.inl rfl) (Or.inl rfl)

/-- **One entry per callback function, replaceable, removable** (`dict[callback] = …`, `dict.pop(callback)`). -/
theorem C14_callback_table (l : List (Cb × Args)) (c : Cb) (a a' : Args) (h : (l.map (·.1)).Nodup) :
    ((setCb l c a).map (·.1)).Nodup ∧ (c, a) ∈ setCb l c a ∧
    (c ∈ l.map (·.1) → (setCb l c a).map (·.1) = l.map (·.1)) ∧
    setCb (setCb l c a) c a' = setCb l c a' ∧ c ∉ (delCb l c).map (·.1) ∧
    (∀ p ∈ delCb l c, p ∈ l) :=
  ⟨nodup_setCb l c a h, mem_setCb l c a, fun hc => by rw [keys_setCb, if_pos hc], setCb_setCb l c a a',
   not_mem_delCb l c, fun _ hp => (List.mem_filter.1 hp).1⟩

/-- a clean-up is skipped only without the inner `try … finally` (pre-fix) or for a task that was cancelled before
its first segment (`stillborn`: `run_coro` never ran, so neither did its `finally`) -/
theorem leaked_false (cfg : Cfg) (ops : List (Op κ)) (t : Task)
    (hl : cfg.cleanupAlways = true ∧ (run cfg ops).stillborn t = false ∨ (run cfg ops).leaked t = false) :
    (run cfg ops).leaked t = false := by
  rcases hl with ⟨e1, e2⟩ | e
  · cases hk : (run cfg ops).leaked t with
    | false => rfl
    | true =>
      rcases ((invL_run cfg ops t).leak hk).1 with a | a
      · rw [e1] at a; cases a
      · rw [e2] at a; cases a
  · exact e

/-- the code as it is now never cancels a task before its first segment: the reaper waits for it (/repo ca978a8) -/
theorem stillborn_current (ops : List (Op κ)) (t : Task) : (run current ops).stillborn t = false := by
  cases h : (run current ops).stillborn t with
  | false => rfl
  | true => have := (invS_run current ops).still t h; cases this

/-- **Clean-up, every configuration.**  A finished task whose clean-up was not skipped is in no registry and owns no
unique name; with `cleanupAlways` (the repaired code) the clean-up is skipped only for a task that was cancelled
before its first segment. -/
theorem C14_cleanup_partial (cfg : Cfg) (ops : List (Op κ)) (t : Task)
    (hd : (run cfg ops).phase t = .done)
    (hl : cfg.cleanupAlways = true ∧ (run cfg ops).stillborn t = false ∨ (run cfg ops).leaked t = false) :
    Clean (run cfg ops) t :=
  (invR_run cfg ops).clean t (Or.inr hd) (leaked_false cfg ops t hl)

/-- **Clean-up – the code as it is now: every finished task**, however it ended (returned, raised, cancelled in its
body, inside a done-callback, or right after it was created), is in no registry and owns no unique name. -/
theorem C14_cleanup (ops : List (Op κ)) (t : Task) (hd : (run current ops).phase t = .done) :
    Clean (run current ops) t :=
  C14_cleanup_partial current ops t hd (Or.inl ⟨rfl, stillborn_current ops t⟩)

/-- **Regression statement about the pre-fix shapes**: the clean-up can only be skipped without the inner
`try … finally` (`cleanupAlways = false`) or for a task killed before its first segment (`stillborn`: the code between
e8a0175 and ca978a8), and then the task either ended cancelled (a cancellation delivered inside a callback, or that
kill) or its callback dict was modified while its `finally` ran. -/
theorem C14_regress_leak_causes (cfg : Cfg) (ops : List (Op κ)) (t : Task) (hl : (run cfg ops).leaked t = true) :
    (cfg.cleanupAlways = false ∨ (run cfg ops).stillborn t = true) ∧ (run cfg ops).phase t = .done ∧
    ((run cfg ops).touched t = true ∨ (run cfg ops).result t = some .cancelled) := by
  have h := invL_run cfg ops t
  obtain ⟨a, b, c⟩ := h.leak hl
  refine ⟨a, b, ?_⟩
  cases hb : (run cfg ops).bailed t with
  | none => exact absurd hb c
  | some r =>
    obtain ⟨_, e, f⟩ := h.bail r hb
    rcases f with f | ⟨_, f, _⟩
    · subst f; exact Or.inr e
    · exact Or.inl f

/-- the code as it is now never skips a clean-up -/
theorem C14_never_leaks (ops : List (Op κ)) (t : Task) : (run current ops).leaked t = false :=
  leaked_false current ops t (Or.inl ⟨rfl, stillborn_current ops t⟩)

/-- **Quiescence, every configuration**: all created tasks finished and no clean-up skipped ⇒ all registries empty. -/
theorem C14_quiescent_empty_partial (cfg : Cfg) (ops : List (Op κ))
    (hq : ∀ t, (run cfg ops).phase t = .none ∨ (run cfg ops).phase t = .done)
    (hl : (cfg.cleanupAlways = true ∧ ∀ t, (run cfg ops).stillborn t = false) ∨
          ∀ t, (run cfg ops).leaked t = false) :
    (∀ t, (run cfg ops).u.ours t = false ∧ (run cfg ops).cb t = none ∧ (run cfg ops).hctx t = false ∧
          (run cfg ops).u.entry t = false ∧ (run cfg ops).u.names t = []) ∧
    (∀ k, (run cfg ops).u.owner k = none) := by
  have hc : ∀ t, Clean (run cfg ops) t := fun t => (invR_run cfg ops).clean t (hq t) (by
    rcases hl with ⟨e1, e2⟩ | e
    · exact leaked_false cfg ops t (Or.inl ⟨e1, e2 t⟩)
    · exact e t)
  refine ⟨fun t => ⟨(hc t).1, (hc t).2.1, (hc t).2.2.1, (hc t).2.2.2.2.1, (hc t).2.2.2.1⟩, fun k => ?_⟩
  cases e : (run cfg ops).u.owner k with
  | none => rfl
  | some t => exact absurd e ((hc t).2.2.2.2.2 k)

/-- **Quiescence – the code as it is now.**  For every step sequence after which every task that was ever created has
finished – in whatever way – all registries are empty. -/
theorem C14_quiescent_empty (ops : List (Op κ))
    (hq : ∀ t, (run current ops).phase t = .none ∨ (run current ops).phase t = .done) :
    (∀ t, (run current ops).u.ours t = false ∧ (run current ops).cb t = none ∧ (run current ops).hctx t = false ∧
          (run current ops).u.entry t = false ∧ (run current ops).u.names t = []) ∧
    (∀ k, (run current ops).u.owner k = none) :=
  C14_quiescent_empty_partial current ops hq (Or.inl ⟨rfl, stillborn_current ops⟩)

/-- **Result.**  A task whose callback loop was not left by an exception finishes with the outcome of its body:
`ok v` ↦ `v`, an exception ↦ logged and `None`, cancelled ↦ cancelled. -/
theorem C14_result (cfg : Cfg) (ops : List (Op κ)) (t : Task)
    (hd : (run cfg ops).phase t = .done) (hb : (run cfg ops).bailed t = none) :
    (run cfg ops).result t = some (specResult (run cfg ops) t) :=
  (invL_run cfg ops t).res hd hb

/-- **The remaining excluded case, now harmless**: in the code as it is now the only exception that leaves a callback
loop is a cancellation delivered inside a done-callback; the task then ends as *cancelled* (it was cancelled), the
callbacks not yet started are skipped (`C14_callbacks_prefix`), and it is cleaned up like every other task. -/
theorem C14_cancel_inside_callback (ops : List (Op κ)) (t : Task) (r : Res)
    (hb : (run current ops).bailed t = some r) :
    r = .cancelled ∧ (run current ops).result t = some .cancelled ∧ Clean (run current ops) t := by
  obtain ⟨a, b, c⟩ := (invL_run current ops t).bail r hb
  have hr : r = .cancelled := by
    rcases c with c | ⟨_, _, c⟩
    · exact c
    · cases c
  subst hr
  exact ⟨rfl, b, C14_cleanup ops t a⟩

/-- the unique-name maps stay mutually inverse through every schedule, aborted `finally`s included -/
theorem C14_maps_inv (cfg : Cfg) (ops : List (Op κ)) (k : κ) (t : Task) :
    (run cfg ops).u.owner k = some t ↔ k ∈ (run cfg ops).u.names t :=
  ⟨fun e => ((invR_run cfg ops).maps.own k t e).1, (invR_run cfg ops).maps.names_own k t⟩

/-- #19 / C14-F1, fixed by /repo e4231d2.  Pre-fix: the first of two callbacks raises – the second never runs.
Now: both run. -/
theorem C14_regress_callback_raises_skips_rest :
    let ops : List (Op Nat) := [.create 0 true true, .start 0, .addCb 0 0 1 10, .addCb 0 0 2 20,
                                .endBody 0 (.ok 5), .cbBegin 0, .cbEnd 0 .raises, .cbBegin 0, .cbEnd 0 .ok, .cleanup 0]
    (run preFix ops).phase 0 = .done ∧ specRan (run preFix ops) 0 = [(1, 10), (2, 20)] ∧
    ranOf (run preFix ops) 0 = [(1, 10)] ∧ (run preFix ops).result 0 = some (.value 5) ∧
    ranOf (run current ops) 0 = [(1, 10), (2, 20)] ∧ (run current ops).result 0 = some (.value 5) ∧
    (run current ops).phase 0 = .done := by
  decide

/-- C14-F2, fixed by /repo f683cd7.  Pre-fix: a cancellation delivered inside a done-callback leaves the `finally`:
the task stays in `our_tasks`, `task2cb`, `task2context` and keeps its unique name.  Now: same schedule, the task is
cancelled and forgotten (the second callback is still skipped and the result is still `cancelled`). -/
theorem C14_regress_cancel_during_callback_leaks_registries :
    let ops : List (Op Nat) := [.create 0 true true, .start 0, .storeCtx 0, .unique 0 7 false, .addCb 0 0 1 10,
                                .addCb 0 0 2 20, .endBody 0 (.ok 5), .cbBegin 0, .create 1 true true, .start 1,
                                .cancel 1 (some 0), .reap, .cbEnd 0 .cancelled]
    ((run preFix ops).phase 0 = .done ∧ (run preFix ops).leaked 0 = true ∧ (run preFix ops).u.ours 0 = true ∧
     (run preFix ops).cb 0 ≠ none ∧ (run preFix ops).hctx 0 = true ∧ (run preFix ops).u.owner 7 = some 0) ∧
    ((run current ops).phase 0 = .done ∧ (run current ops).leaked 0 = false ∧ (run current ops).u.ours 0 = false ∧
     (run current ops).cb 0 = none ∧ (run current ops).hctx 0 = false ∧ (run current ops).u.owner 7 = none ∧
     ranOf (run current ops) 0 = [(1, 10)] ∧ (run current ops).result 0 = some .cancelled) := by
  decide

/-- C14-F3, fixed by /repo 83f57a2.  Pre-fix: a done-callback that registers another callback on its own task makes
the dict iterator raise `RuntimeError`; the remaining callback is skipped, nothing is cleaned.  Now: the loop runs over
the snapshot – both registered callbacks run, the late one does not, the task ends with its value and is forgotten. -/
theorem C14_regress_callback_mutates_dict_leaks :
    let ops : List (Op Nat) := [.create 0 true true, .start 0, .addCb 0 0 1 10, .addCb 0 0 2 20, .endBody 0 (.ok 5),
                                .cbBegin 0, .addCb 0 0 3 30, .cbEnd 0 .ok, .cbBegin 0, .cbEnd 0 .ok, .cleanup 0]
    ((run preFix ops).phase 0 = .done ∧ (run preFix ops).leaked 0 = true ∧ (run preFix ops).u.ours 0 = true ∧
     (run preFix ops).cb 0 ≠ none ∧ ranOf (run preFix ops) 0 = [(1, 10)] ∧
     (run preFix ops).result 0 = some .error) ∧
    ((run current ops).phase 0 = .done ∧ (run current ops).u.ours 0 = false ∧ (run current ops).cb 0 = none ∧
     ranOf (run current ops) 0 = [(1, 10), (2, 20)] ∧ (run current ops).result 0 = some (.value 5)) := by
  decide

/-- #24 / C14-F4, fixed by /repo 48c341a + a0b69d9.  Pre-fix: a `@service` task is created without an evaluator
context, has no `task2cb` entry, and `task.add_done_callback(task.current_task(), …)` inside it raises `KeyError`.
Now the entry exists and the callback is registered. -/
theorem C14_regress_service_task_has_no_callback_entry :
    let go := fun (cfg : Cfg) =>
      step cfg (step cfg (createService cfg (init : St Nat) 0) (.start 0)) (.addCb 0 0 1 10)
    ((go preFix).errs = 1 ∧ (go preFix).cb 0 = none) ∧
    ((go current).errs = 0 ∧ (go current).cb 0 = some [(1, 10)]) := by
  decide

/-- C14-F5, fixed by /repo e8a0175.  Pre-fix: `task.cancel(t)` of a task that was created but has not run its first
segment raised `TypeError` (`our_tasks` was filled by `run_coro` only) and nothing was queued.  Now the task is one of
ours from `create_task` on: the cancel is queued and, once the task has run its first segment, delivered. -/
theorem C14_regress_cancel_before_start_raises :
    let ops : List (Op Nat) := [.create 0 true true, .start 0, .create 1 true true, .cancel 0 (some 1)]
    ((run preFix ops).errs = 1 ∧ (run preFix ops).u.reaperQ = []) ∧
    ((run current ops).errs = 0 ∧ (run current ops).u.reaperQ = [1] ∧
     (run current (ops ++ [.reap])).u.reaperQ = [1] ∧
     (run current (ops ++ [.reap, .start 1, .reap])).u.reaperQ = [] ∧
     (run current (ops ++ [.reap, .start 1, .reap])).u.cancelReq 1 = true ∧
     (run current (ops ++ [.reap, .start 1, .reap])).phase 1 = .running) := by
  decide

/-- C14-F7, opened by e8a0175 and fixed by /repo ca978a8.  In between (`preF7`) the reaper, when it was already working
through its queue, called `cancel()` on a new task before that task's first step: the step then threw `CancelledError`
into the not yet started `run_coro`, no statement of it ran, so its `finally` did not either – the done-callback
registered on the task never ran and its `task2cb` entry stayed for ever.  Now the same `reap` waits, the task starts,
the next `reap` cancels it, and its body ends cancelled, its callback runs and it is forgotten. -/
theorem C14_regress_cancel_before_first_segment :
    let pre : List (Op Nat) := [.create 0 true true, .start 0, .create 1 true true, .addCb 0 1 2 7,
                                .cancel 0 (some 1), .reap, .start 1]
    let post : List (Op Nat) := [.reap, .endBody 1 .cancelled, .cbBegin 1, .cbEnd 1 .ok, .cleanup 1]
    ((run preF7 pre).phase 1 = .done ∧ (run preF7 pre).stillborn 1 = true ∧
     (run preF7 pre).result 1 = some .cancelled ∧ (run preF7 pre).cb 1 = some [(2, 7)] ∧
     ranOf (run preF7 pre) 1 = [] ∧ specRan (run preF7 pre) 1 = [(2, 7)] ∧ (run preF7 pre).leaked 1 = true) ∧
    ((run current pre).phase 1 = .running ∧ (run current pre).u.reaperQ = [1] ∧
     (run current (pre ++ post)).phase 1 = .done ∧ (run current (pre ++ post)).result 1 = some .cancelled ∧
     ranOf (run current (pre ++ post)) 1 = [(2, 7)] ∧ (run current (pre ++ post)).cb 1 = none ∧
     (run current (pre ++ post)).u.ours 1 = false) := by
  decide

/-- **A task can be cancelled from the moment it exists** (the code as it is now): in any state, once `create_task`
has made task `t`, `task.cancel(t)` by a running task raises nothing and puts `t` on the reaper queue. -/
theorem C14_cancel_created_task (s : St κ) (a t : Task) (wc pre : Bool)
    (hp : s.phase t = .none) (ha : active s a = true) (hne : a ≠ t) :
    let s1 := step current s (.create t wc pre)
    (step current s1 (.cancel a (some t))).errs = s.errs ∧
    t ∈ (step current s1 (.cancel a (some t))).u.reaperQ :=
  cancel_created current rfl s a t wc pre hp ha hne

/-- C14-F6, fixed by /repo 32185a9.  Pre-fix: **the one shared await** – the reaper awaited every task it cancelled, so
while a cancelled task 0 was still inside a (sleeping) done-callback the reaper was busy and the cancellation that the
unrelated task 1 had queued (`task.cancel()` of itself) was not delivered until task 0's `finally` was over.  Now the
same `reap` delivers it at once. -/
theorem C14_regress_reaper_serialises_cancellations :
    let pre : List (Op Nat) := [.create 0 true true, .start 0, .addCb 0 0 3 1, .create 2 true true, .start 2,
                                .cancel 2 (some 0), .reap, .endBody 0 .cancelled, .cbBegin 0,
                                .create 1 true true, .start 1, .cancel 1 none]
    (C13.busy (run preFix (pre ++ [.reap])).u = true ∧ (run preFix (pre ++ [.reap])).u.reaperQ = [1] ∧
     (run preFix (pre ++ [.reap])).u.cancelReq 1 = false ∧ (run preFix (pre ++ [.reap])).inCb 0 = true ∧
     (run preFix (pre ++ [.cbEnd 0 .ok, .cleanup 0, .reap])).u.cancelReq 1 = true) ∧
    ((run current (pre ++ [.reap])).u.reaperQ = [] ∧ (run current (pre ++ [.reap])).u.cancelReq 1 = true ∧
     (run current (pre ++ [.reap])).inCb 0 = true) := by
  decide

/-- **The reaper never waits for a task's clean-up or done-callbacks** (the code as it is now): in any state, whatever
any other task is doing, one reaper iteration takes the head of the queue and – if that task is still running – cancels
it.  The only thing it waits for is the *first statement* of a task that has not started yet (`headUnstarted`: that
task is already on the ready queue, so the wait is one loop iteration): then the step changes nothing, and as soon as
the task has started the first clause applies. -/
theorem C14_reaper_never_blocks (s : St κ) (h : Task) (q : List Task) (hq : s.u.reaperQ = h :: q) :
    (s.phase h ≠ .created →
      (step current s .reap).u.reaperQ = q ∧
      (s.u.live h = true → (step current s .reap).u.cancelReq h = true)) ∧
    (s.phase h = .created → step current s .reap = s) :=
  ⟨(reap_head current s h q hq).1 rfl, (reap_head current s h q hq).2 rfl⟩


/-! ### the tie to the source: shape tables extracted from function.py / eval.py / decorators/service.py -/

/-- **The extracted shapes are the modelled shapes**: `current` is DEFINED from the extracted configuration flags (a
pre-fix shape that the extractor recognises turns the corresponding flag and with it the replayed model; these theorems
then stop building); the remaining shape facts – loop under `if task in task2cb`, each callback awaited with its own
`(ast_ctx, args, kwargs)`, first segment adds to `our_tasks` and makes the `task2cb` entry, result = the body's value,
`CancelledError` re-raised, other exceptions logged, `unstarted_tasks` tracked iff the reaper waits for it, entry kept
when present, add = dict store / remove = pop, `task.cancel` = default to self + `our_tasks` check + reaper + park,
release in a `finally` without await, one FIFO reaper queue – are all as modelled. -/
theorem C14_shape_tie : current = ⟨true, true, true, true, true, true, true⟩ ∧ shapeFacts.all id = true ∧
    C13.Shape.extracted = C13.Shape.proved :=
  ⟨rfl, by decide, C13.C13_shape_tie.1⟩

/-- the release block assembled from the order table of `Shape.proved` (= the extracted one, `C14_shape_tie`) is
`finish` -/
theorem C14_shape_finish (s : St κ) (t : Task) (r : Res) : finishSh C13.Shape.proved s t r = finish s t r := by
  unfold finishSh finish
  rw [C13.C13_shape_release]
  simp [C13.Shape.proved]

/-- **The model the driver replays observed runs with is the model of the theorems.** -/
theorem C14_shape_step (s : St κ) (op : Op κ) : stepSh C13.Shape.extracted current s op = step current s op := by
  rw [C14_shape_tie.2.2]
  have hf : finishSh (κ := κ) C13.Shape.proved = finish := by
    funext s t r; exact C14_shape_finish s t r
  have hb : bailSh (κ := κ) C13.Shape.proved = bail := by
    funext cfg s t r; unfold bailSh bail; rw [hf]
  cases op with
  | unique t k km =>
    show uniqueStepSh _ s t k km = uniqueStep s t k km
    unfold uniqueStepSh uniqueStep; rw [C13.C13_shape_unique]
  | cbBegin t =>
    show cbBeginStepSh _ current s t = cbBeginStep current s t
    unfold cbBeginStepSh cbBeginStep; rw [hb]
  | cbEnd t r =>
    show cbEndStepSh _ current s t r = cbEndStep current s t r
    unfold cbEndStepSh cbEndStep; rw [hb]
  | cleanup t =>
    show cleanupStepSh _ current s t = cleanupStep current s t
    unfold cleanupStepSh cleanupStep; rw [hb, hf]
  | _ => rfl

/-! non-vacuity -/
example : let s := run current [.create 0 true true, .start 0, .storeCtx 0, .unique 0 7 false, .addCb 0 0 1 10,
                                .addCb 0 0 2 20, .addCb 0 0 1 11, .removeCb 0 0 2, .endBody 0 .exc, .cbBegin 0,
                                .cbEnd 0 .raises, (.cleanup 0 : Op Nat)]
    s.phase 0 = .done ∧ s.bailed 0 = none ∧ s.cbRaised 0 = true ∧
    ranOf s 0 = [(1, 11)] ∧ s.result 0 = some .noneVal ∧ s.u.owner 7 = none ∧ s.u.ours 0 = false := by
  decide

end PsModel.C14
