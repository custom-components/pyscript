import PsModel.Model.C17
import PsModel.Spec.C17
namespace PsModel.C17
open PsModel

theorem allowListed_iff (name : String) : allowListed name = true ↔ name ∈ Gen.ALLOWED_IMPORTS := by
  simp [allowListed]

theorem hostImport_eq (env : Env) (name : String) :
    hostImport env name =
      if name ∈ Gen.ALLOWED_IMPORTS ∨ env.allowAll = true then
        (match env.host name with
         | some m => .ok m
         | none => .error .notFound)
      else .error .notAllowed := by
  simp only [hostImport, ← allowListed_iff]
  cases env.allowAll <;> cases allowListed name <;> rfl

theorem resolve_eq (env : Env) (name : String) :
    resolve env name =
      if (pysLookup env name).isSome = true ∨ name ∈ Gen.ALLOWED_IMPORTS ∨ env.allowAll = true then
        (match target env name with
         | some m => .ok m
         | none => .error .notFound)
      else .error .notAllowed := by
  unfold resolve target
  cases pysLookup env name with
  | some m => simp
  | none => simp [hostImport_eq]

theorem execImport_append (env : Env) (pre post : List Alias) (σ : Bindings) :
    execImport env (pre ++ post) σ =
      if (execImport env pre σ).err = none then execImport env post (execImport env pre σ).binds
      else execImport env pre σ := by
  induction pre generalizing σ with
  | nil => rfl
  | cons a rest ih =>
    rw [List.cons_append, execImport, execImport]
    cases resolve env a.name with
    | error e => rfl
    | ok m => exact ih _

theorem execImport_prefix (env : Env) (names : List Alias) (σ : Bindings) :
    ∃ τ, (execImport env names σ).binds = σ ++ τ := by
  induction names generalizing σ with
  | nil => exact ⟨[], (List.append_nil σ).symm⟩
  | cons a rest ih =>
    rw [execImport]
    cases resolve env a.name with
    | error e => exact ⟨[], (List.append_nil σ).symm⟩
    | ok m =>
      obtain ⟨τ, hτ⟩ := ih (σ ++ [(a.key, .mod m.id)])
      exact ⟨_ :: τ, hτ.trans (List.append_assoc ..)⟩

theorem firstFile_some (files : List (String × ModInfo)) (ps : List String) (m : ModInfo)
    (h : firstFile files ps = some m) : ∃ p, lookupFile files p = some m := by
  induction ps with
  | nil => simp [firstFile] at h
  | cons p ps ih =>
    unfold firstFile at h
    cases hl : lookupFile files p with
    | some m' => simp only [hl] at h; cases h; exact ⟨p, hl⟩
    | none => simp only [hl] at h; exact ih h

theorem relLookup_found {env : Env} {level : Nat} {name : String} {m : ModInfo}
    (h : relLookup env level name = .found m) : ∃ ps, firstFile env.files ps = some m := by
  unfold relLookup at h
  split at h
  · cases h
  · split at h
    · cases h
    · split at h
      · next hf => cases h; exact ⟨_, hf⟩
      · cases h

theorem runSeq_append (env : Env) (pre rest : List (Bool × Prog)) (σ : Bindings) :
    runSeq env (pre ++ rest) σ = runSeq env pre σ ++ runSeq env rest (seqBinds env pre σ) := by
  induction pre generalizing σ with
  | nil => rfl
  | cons x xs ih =>
    obtain ⟨b, q⟩ := x
    simp only [List.cons_append, runSeq, seqBinds, ih]

theorem lookupName_host {ne : NameEnv} {x : String} (h : lookupName ne x = .host) :
    ne.hostBuiltin x = true ∧ x ∉ Gen.BUILTIN_EXCLUDE ∧ x.front ≠ '_' := by
  have hc : (ne.hostBuiltin x && !Gen.BUILTIN_EXCLUDE.contains x && x.front != '_') = true := by
    -- were the third test to fail, `.host` would have to come from one of the other four branches
    refine Decidable.by_contra fun hc => ?_
    rw [lookupName, if_neg hc] at h
    generalize ne.user x = a, Gen.BUILTIN_AST_FUNCS.contains x = b, ne.func x = c at h
    revert a b c
    decide
  simpa only [Bool.and_eq_true, Bool.not_eq_true', List.contains_eq_mem, decide_eq_false_iff_not, bne_iff_ne, and_assoc] using hc

end PsModel.C17
