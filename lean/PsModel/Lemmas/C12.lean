import PsModel.Model.C12
import PsModel.Spec.C12
import PsModel.Lemmas.C16
/-! What `service_register` / `service_remove` do to count, owner and handler; then the life-cycle machine.  Every step
of either subsystem is a composition of three shapes – names are given back (`inv_release`), a holder starts
declarations (`inv_acquire`), the holders of a variable or of a context are dropped (`inv_drop`) – and the invariant
`Inv` and the tightness of the counts (`Tight`) are carried through these; the agreement of Home Assistant's table with
the `handler` table (`HaInv`) goes through the same shapes.  At the end: the split of an outgoing call's keyword arguments,
and the machine on keys on which the test vectors are evaluated. -/
namespace PsModel.C12
open PsModel.C16 (aget aset adel aget_aset aget_adel aget_aset_same aget_aset_other aget_adel_same aget_adel_other)

theorem count_cons_ite (k k' : Svc) (ks : List Svc) : (k :: ks).count k' = ks.count k' + (if k' = k then 1 else 0) := by
  rw [List.count_cons]
  by_cases e : k' = k
  · subst e; simp
  · have e' : ¬ (k == k') = true := by simpa using (fun h => e h.symm)
    simp [e, e']

theorem aget_append {α : Type} (k : String) (a b : List (String × α)) :
    aget k (a ++ b) = match aget k a with | some v => some v | none => aget k b := by
  induction a with
  | nil => simp [aget]
  | cons p r ih =>
    by_cases h : p.1 = k
    · simp [aget, h]
    · simp [aget, h, ih]

theorem aget_foldl_aset (k : String) : ∀ (data base : Kw),
    aget k (data.foldl (fun acc p => aset p.1 p.2 acc) base) =
      match aget k data.reverse with | some v => some v | none => aget k base := by
  intro data
  induction data with
  | nil => intro base; simp [aget]
  | cons p ps ih =>
    intro base
    simp only [List.foldl_cons, List.reverse_cons]
    rw [ih, aget_append, aget_aset]
    cases h : aget k ps.reverse
    · by_cases e : k = p.1
      · subst e; simp [aget]
      · have e' : ¬ p.1 = k := fun x => e x.symm
        simp [aget, e, e']
    · simp

def RegOK (r : Reg) : Prop :=
  ∀ k, ((aget k r.handler).isSome = decide (cntOf r k > 0)) ∧ ((aget k r.owner).isSome = decide (cntOf r k > 0))

theorem cntOf_ensure (c : List (Svc × Nat)) (k k' : Svc) :
    (aget k' (ensureCnt c k)).getD 0 = (aget k' c).getD 0 := by
  unfold ensureCnt
  cases h : aget k c
  · by_cases e : k' = k
    · subst e; simp [aget_aset_same, h]
    · simp [aget_aset_other _ _ _ _ e]
  · simp

theorem register_snd (r : Reg) (o : OwnerName) (k : Svc) (h : Handler) : (register r o k h).2 = accepts r o k := by
  unfold register; split <;> simp [*]

theorem register_ok (r : Reg) (o : OwnerName) (k : Svc) (h : Handler) (ha : accepts r o k = true) :
    (register r o k h).2 = true ∧
    (∀ k', cntOf (register r o k h).1 k' = cntOf r k' + (if k' = k then 1 else 0)) ∧
    (∀ k', aget k' (register r o k h).1.handler = if k' = k then some h else aget k' r.handler) ∧
    (∀ k', aget k' (register r o k h).1.owner = if k' = k then some o else aget k' r.owner) ∧
    (register r o k h).1.underflow = r.underflow := by
  refine ⟨by simp [register, ha], fun k' => ?_, fun k' => ?_, fun k' => ?_, by simp [register, ha]⟩
  · simp only [register, ha, if_true, cntOf, aget_aset]
    by_cases e : k' = k
    · subst e; simp
    · simp [e, cntOf_ensure]
  · simp [register, ha, aget_aset]
  · simp only [register, ha, if_true, ensureOwner]
    cases hq : aget k r.owner
    · simp [aget_aset]
    · rename_i o'
      have : o' = o := by simpa [accepts, hq] using ha
      subst this
      by_cases e : k' = k
      · subst e; simp [hq]
      · simp [e]

theorem register_refused (r : Reg) (o : OwnerName) (k : Svc) (h : Handler) (ha : accepts r o k = false) :
    (register r o k h).2 = false ∧
    (∀ k', cntOf (register r o k h).1 k' = cntOf r k') ∧
    (register r o k h).1.handler = r.handler ∧ (register r o k h).1.owner = r.owner ∧
    (register r o k h).1.underflow = r.underflow := by
  simp only [register, ha, Bool.false_eq_true, if_false, true_and, and_true]
  intro k'
  simp [cntOf, cntOf_ensure]

theorem register_regOK (r : Reg) (o : OwnerName) (k : Svc) (h : Handler) (hr : RegOK r) :
    RegOK (register r o k h).1 := by
  by_cases ha : accepts r o k = true
  · obtain ⟨_, hc, hh, ho, _⟩ := register_ok r o k h ha
    intro k'
    rw [hc, hh, ho]
    by_cases e : k' = k
    · subst e; simp
    · simp [e, hr k']
  · have ha' : accepts r o k = false := by simpa using ha
    obtain ⟨_, hc, hh, ho, _⟩ := register_refused r o k h ha'
    intro k'
    rw [hc, hh, ho]; exact hr k'

theorem register_owner_mono (r : Reg) (o : OwnerName) (k : Svc) (h : Handler) (k' : Svc) (x : OwnerName)
    (hx : aget k' r.owner = some x) : aget k' (register r o k h).1.owner = some x := by
  by_cases ha : accepts r o k = true
  · obtain ⟨_, _, _, ho, _⟩ := register_ok r o k h ha
    rw [ho]
    by_cases e : k' = k
    · subst e
      have : x = o := by simpa [accepts, hx] using ha
      simp [this]
    · simp [e, hx]
  · have ha' : accepts r o k = false := by simpa using ha
    rw [(register_refused r o k h ha').2.2.2.1]; exact hx

theorem remove_gt (r : Reg) (k : Svc) (h : cntOf r k > 1) :
    remove r k = { r with cnt := aset k (cntOf r k - 1) r.cnt } := by simp [remove, h]

theorem remove_le (r : Reg) (k : Svc) (h : ¬ cntOf r k > 1) :
    remove r k = ⟨aset k 0 r.cnt, adel k r.owner, adel k r.handler, adel (lower k) r.ha, r.underflow || (cntOf r k == 0)⟩ := by
  simp [remove, h]

theorem cntOf_remove (r : Reg) (k k' : Svc) : cntOf (remove r k) k' = cntOf r k' - (if k' = k then 1 else 0) := by
  by_cases h1 : cntOf r k > 1
  · rw [remove_gt r k h1]
    simp only [cntOf, aget_aset]
    split
    · rename_i e; rw [e]; rfl
    · rfl
  · rw [remove_le r k h1]
    simp only [cntOf, aget_aset]
    split
    · rename_i e; rw [e]; simp only [cntOf] at h1; simp only [Option.getD_some]; omega
    · rfl

theorem remove_spec (r : Reg) (k : Svc) (hr : RegOK r) (hpos : 1 ≤ cntOf r k) :
    RegOK (remove r k) ∧ (remove r k).underflow = r.underflow ∧
    (∀ k', cntOf (remove r k) k' > 0 → aget k' (remove r k).owner = aget k' r.owner ∧
        aget k' (remove r k).handler = aget k' r.handler) := by
  have hc := cntOf_remove r k
  by_cases h1 : cntOf r k > 1
  · -- only the count of `k` changes, and it stays positive
    refine ⟨fun k' => ?_, by rw [remove_gt r k h1], fun k' _ => by rw [remove_gt r k h1]; exact ⟨rfl, rfl⟩⟩
    have : cntOf (remove r k) k' > 0 ↔ cntOf r k' > 0 := by
      rw [hc]; split
      · rename_i e; rw [e]; omega
      · omega
    rw [decide_eq_decide.mpr this, remove_gt r k h1]; exact hr k'
  · -- the count of `k` is 1: its entries go, every other key keeps count and entries
    refine ⟨fun k' => ?_, ?_, fun k' hp => ?_⟩
    · rw [hc, remove_le r k h1]
      by_cases e : k' = k
      · have : ¬ cntOf r k - 1 > 0 := by omega
        simp [e, aget_adel_same, this]
      · simpa [e, aget_adel_other _ _ _ e] using hr k'
    · have : cntOf r k = 1 := by omega
      simp [remove_le r k h1, this]
    · have e : k' ≠ k := fun e => by subst e; rw [hc, if_pos rfl] at hp; omega
      rw [remove_le r k h1]; exact ⟨aget_adel_other _ _ _ e, aget_adel_other _ _ _ e⟩

theorem releaseList_spec (l : List Svc) : ∀ (r : Reg), RegOK r → (∀ k, l.count k ≤ cntOf r k) →
    RegOK (releaseList r l) ∧ (∀ k, cntOf (releaseList r l) k + l.count k = cntOf r k) ∧
    (releaseList r l).underflow = r.underflow ∧
    (∀ k, cntOf (releaseList r l) k > 0 → aget k (releaseList r l).owner = aget k r.owner ∧
        aget k (releaseList r l).handler = aget k r.handler) := by
  induction l with
  | nil => intro r hr _; exact ⟨hr, fun _ => rfl, rfl, fun _ _ => ⟨rfl, rfl⟩⟩
  | cons k ks ih =>
    intro r hr hle
    -- `c' = c - t` is the count after `remove r k`, `n + t` the occurrences in `k :: ks`
    have step : ∀ {c c' n t : Nat}, n + t ≤ c → c' = c - t → n ≤ c' ∧ ∀ c'', c'' + n = c' → c'' + (n + t) = c :=
      fun h1 h2 => ⟨by omega, fun _ h => by omega⟩
    have hle' := fun k' => count_cons_ite k k' ks ▸ hle k'
    have h2 := cntOf_remove r k
    obtain ⟨h1, h3, h4⟩ := remove_spec r k hr (by have := hle' k; rw [if_pos rfl] at this; omega)
    obtain ⟨i1, i2, i3, i4⟩ := ih (remove r k) h1 (fun k' => (step (hle' k') (h2 k')).1)
    refine ⟨i1, fun k' => ?_, i3.trans h3, fun k' hp => ?_⟩
    · rw [count_cons_ite]; exact (step (hle' k') (h2 k')).2 _ (i2 k')
    · obtain ⟨a1, a2⟩ := i4 k' hp
      obtain ⟨b1, b2⟩ := h4 k' (Nat.lt_of_lt_of_le hp (Nat.le.intro (i2 k')))
      exact ⟨a1.trans b1, a2.trans b2⟩

theorem releaseList_append (a b : List Svc) : ∀ r : Reg, releaseList r (a ++ b) = releaseList (releaseList r a) b := by
  induction a with
  | nil => intro r; rfl
  | cons k ks ih => intro r; exact ih (remove r k)

/-- how many registrations of `k` the live holders will give back -/
def trackedCount (hs : List Holder) (k : Svc) : Nat := (hs.map (fun h => h.tracked.count k)).sum

theorem trackedCount_nil (k : Svc) : trackedCount [] k = 0 := rfl
theorem trackedCount_cons (h : Holder) (hs : List Holder) (k : Svc) :
    trackedCount (h :: hs) k = h.tracked.count k + trackedCount hs k := by simp [trackedCount]
theorem trackedCount_append (a b : List Holder) (k : Svc) :
    trackedCount (a ++ b) k = trackedCount a k + trackedCount b k := by simp [trackedCount]

theorem count_tracked (hs : List Holder) (k : Svc) : (hs.flatMap (·.tracked)).count k = trackedCount hs k := by
  induction hs with
  | nil => rfl
  | cons h hs ih => rw [List.flatMap_cons, List.count_append, ih, trackedCount_cons]

theorem trackedCount_pos (hs : List Holder) (h : Holder) (k : Svc) (hm : h ∈ hs) (hk : k ∈ h.tracked) :
    1 ≤ trackedCount hs k := by
  rw [← count_tracked]
  exact List.count_pos_iff.mpr (List.mem_flatMap.mpr ⟨h, hm, hk⟩)

theorem trackedCount_filter (p : Holder → Bool) (hs : List Holder) (k : Svc) :
    trackedCount (hs.filter p) k + trackedCount (hs.filter (fun h => !p h)) k = trackedCount hs k := by
  induction hs with
  | nil => rfl
  | cons h hs ih => cases hp : p h <;> simp [hp, trackedCount_cons] <;> omega

theorem trackedCount_map (f : Holder → Holder) (hf : ∀ h, (f h).tracked = h.tracked) (hs : List Holder) (k : Svc) :
    trackedCount (hs.map f) k = trackedCount hs k := by
  simp only [trackedCount, List.map_map, Function.comp_def, hf]

/-- the holder's bookkeeping accounts for every registration it makes: the started declarations are kept as a list
(new subsystem), or a name that is already tracked is not registered again (legacy since the repair of `trigger_init`) -/
def Exact (cfg : Cfg) : Prop := cfg.trackAsSet = false ∨ cfg.skipDup = true

structure Inv (st : MState) : Prop where
  regOK : RegOK st.reg
  cntGe : ∀ k, trackedCount st.holders k ≤ cntOf st.reg k
  owner : ∀ h ∈ st.holders, ∀ k ∈ h.tracked, aget k st.reg.owner = some h.owner
  noUnder : st.reg.underflow = false

/-- every registration counted is one that a holder will give back -/
def Tight (st : MState) : Prop := ∀ k, trackedCount st.holders k = cntOf st.reg k

theorem inv_init : Inv {} ∧ Tight {} :=
  ⟨⟨fun k => by simp [cntOf, aget], fun k => by simp [trackedCount, cntOf, aget], fun h hm => by simp at hm, rfl⟩,
   fun k => by simp [trackedCount, cntOf, aget]⟩

/-- Names are given back (`l`) and the holders that tracked them go or stay (`hs'`): every stop, unload and
roll-back has this shape.  Tightness survives because both sides lose the same registrations. -/
theorem inv_release {st : MState} (hi : Inv st) (l : List Svc) (hs' : List Holder) (i : Bool)
    (hc : ∀ k, trackedCount hs' k + l.count k = trackedCount st.holders k)
    (hp : ∀ h' ∈ hs', ∀ k ∈ h'.tracked, ∃ h ∈ st.holders, k ∈ h.tracked ∧ h.owner = h'.owner) :
    Inv ⟨releaseList st.reg l, hs', i⟩ ∧ (Tight st → Tight ⟨releaseList st.reg l, hs', i⟩) := by
  obtain ⟨b1, b2, b3, b4⟩ := releaseList_spec l st.reg hi.regOK
    (fun k => by have := hc k; have := hi.cntGe k; omega)
  have ge : ∀ k, trackedCount hs' k ≤ cntOf (releaseList st.reg l) k := fun k => by
    have := hc k; have := b2 k; have := hi.cntGe k; omega
  refine ⟨⟨b1, ge, fun h' hm k hk => ?_, b3.trans hi.noUnder⟩, fun ht k => ?_⟩
  · obtain ⟨h, hh, hk', e⟩ := hp h' hm k hk
    have pos : cntOf (releaseList st.reg l) k > 0 := by
      have := trackedCount_pos hs' h' k hm hk; have := ge k; omega
    exact ((b4 k pos).1.trans (hi.owner h hh k hk')).trans (congrArg some e)
  · show trackedCount hs' k = cntOf (releaseList st.reg l) k
    have := hc k; have := b2 k; have := ht k; omega

/-- does the death of the function variable release the holder? (a running holder always; a not-yet-started manager
since the repair of `on_func_var_deleted` – it has started nothing, `tracked = []`, in every admissible run) -/
def released (cfg : Cfg) (h : Holder) : Bool := h.status == .running || cfg.dropDelayed

theorem dropReg_eq (cfg : Cfg) (r : Reg) (h : Holder) :
    dropReg cfg r h = if released cfg h then releaseList r h.tracked else r := by
  unfold dropReg released
  cases h.status <;> cases cfg.dropDelayed <;> simp

theorem dropHolder_eq (cfg : Cfg) (h : Holder) :
    dropHolder cfg h = if released cfg h then none else some { h with bound := false } := by
  unfold dropHolder released
  cases h.status <;> cases cfg.dropDelayed <;> simp

def stops (cfg : Cfg) (ctx var : String) (h : Holder) : Bool := isVar ctx var h && released cfg h

/-- a holder that stays but loses its function variable where `t` says so: a manager still scheduled (before the repair of
`on_func_var_deleted`, `t = isVar ctx var`), a holder that `GlobalContext.stop()` did not reach (`orphan ctx`) -/
def clearBound (t : Holder → Bool) (h : Holder) : Holder := if t h then { h with bound := false } else h

theorem clearBound_fields (t : Holder → Bool) (h : Holder) :
    (clearBound t h).tracked = h.tracked ∧ (clearBound t h).owner = h.owner ∧ (clearBound t h).pending = h.pending := by
  unfold clearBound; split <;> exact ⟨rfl, rfl, rfl⟩

theorem unbindReg_eq (cfg : Cfg) (ctx var : String) : ∀ (hs : List Holder) (r : Reg),
    unbindReg cfg r ctx var hs = releaseList r ((hs.filter (stops cfg ctx var)).flatMap (·.tracked)) := by
  intro hs
  induction hs with
  | nil => intro r; rfl
  | cons h hs ih =>
    intro r
    cases hv : isVar ctx var h <;> cases hr : released cfg h <;>
      simp [unbindReg, dropReg_eq, stops, hv, hr, releaseList_append, ih]

theorem unbindHolders_eq (cfg : Cfg) (ctx var : String) : ∀ hs : List Holder,
    unbindHolders cfg ctx var hs = (hs.filter (fun h => !stops cfg ctx var h)).map (clearBound (isVar ctx var)) := by
  intro hs
  induction hs with
  | nil => rfl
  | cons h hs ih =>
    cases hv : isVar ctx var h <;> cases hr : released cfg h <;>
      simp [unbindHolders, dropHolder_eq, stops, clearBound, hv, hr, ih]

theorem unloadReg_eq (p : Holder → Bool) : ∀ (hs : List Holder) (r : Reg),
    unloadReg p r hs = releaseList r ((hs.filter p).flatMap (·.tracked)) := by
  intro hs
  induction hs with
  | nil => intro r; rfl
  | cons h hs ih => intro r; cases hp : p h <;> simp [unloadReg, hp, releaseList_append, ih]

/-- a `del`, a rebinding and an unload all stop the holders among `hs` that `p` selects and leave the others as they
are but for their `bound` flag (cleared where `t`); `extra` is a holder started just before (register-before-remove) -/
theorem inv_drop {st : MState} (hi : Inv st) (hs extra : List Holder) (hst : st.holders = hs ++ extra) (p t : Holder → Bool)
    (i : Bool) :
    Inv ⟨releaseList st.reg ((hs.filter p).flatMap (·.tracked)), (hs.filter (fun h => !p h)).map (clearBound t) ++ extra, i⟩ ∧
    (Tight st → Tight ⟨releaseList st.reg ((hs.filter p).flatMap (·.tracked)),
      (hs.filter (fun h => !p h)).map (clearBound t) ++ extra, i⟩) := by
  apply inv_release hi
  · intro k
    rw [hst, trackedCount_append, trackedCount_append, trackedCount_map _ (fun h => (clearBound_fields t h).1), count_tracked]
    have := trackedCount_filter p hs k; omega
  · intro h' hm k hk
    rcases List.mem_append.mp hm with hm | hm
    · obtain ⟨h, hh, rfl⟩ := List.mem_map.mp hm
      exact ⟨h, hst ▸ List.mem_append_left _ (List.mem_filter.mp hh).1, (clearBound_fields t h).1 ▸ hk, (clearBound_fields t h).2.1.symm⟩
    · exact ⟨h', hst ▸ List.mem_append_right _ hm, hk, rfl⟩

theorem inv_unbind (cfg : Cfg) (ctx var : String) {st : MState} (hi : Inv st) (hs extra : List Holder)
    (hst : st.holders = hs ++ extra) (i : Bool) :
    Inv ⟨unbindReg cfg st.reg ctx var hs, unbindHolders cfg ctx var hs ++ extra, i⟩ ∧
    (Tight st → Tight ⟨unbindReg cfg st.reg ctx var hs, unbindHolders cfg ctx var hs ++ extra, i⟩) := by
  rw [unbindReg_eq, unbindHolders_eq]
  exact inv_drop hi hs extra hst _ _ i

theorem mem_track (cfg : Cfg) (tr : List Svc) (d x : Svc) : x ∈ track cfg tr d ↔ x ∈ tr ∨ x = d := by
  unfold track
  split
  · rename_i h
    have hd : d ∈ tr := by
      have : tr.contains d = true := by
        revert h; cases cfg.trackAsSet <;> simp
      simpa using this
    constructor
    · intro hx; exact Or.inl hx
    · rintro (hx | hx)
      · exact hx
      · subst hx; exact hd
  · simp

theorem count_track (cfg : Cfg) (tr : List Svc) (d k : Svc) :
    (track cfg tr d).count k ≤ tr.count k + (if k = d then 1 else 0) := by
  unfold track
  split
  · omega
  · rw [List.count_append, count_cons_ite, List.count_nil]; omega

theorem track_exact (cfg : Cfg) (tr : List Svc) (d k : Svc) (h : cfg.trackAsSet = false ∨ tr.contains d = false) :
    (track cfg tr d).count k = tr.count k + (if k = d then 1 else 0) := by
  have hc : (cfg.trackAsSet && tr.contains d) = false := by
    rcases h with h | h
    · rw [h]; rfl
    · rw [h]; exact Bool.and_false _
  simp only [track, hc, Bool.false_eq_true, if_false, List.count_append, count_cons_ite, List.count_nil, Nat.zero_add]

/-- what an acquisition `a` by owner `o`, started from registry `r` with `tr` tracked already, guarantees -/
structure AcqSpec (r : Reg) (tr : List Svc) (o : OwnerName) (a : Acq) : Prop where
  regOK : RegOK a.reg
  noUnder : a.reg.underflow = r.underflow
  grows : ∀ k, a.tracked.count k + cntOf r k ≤ tr.count k + cntOf a.reg k
  owned : ∀ k ∈ a.tracked, k ∈ tr ∨ aget k a.reg.owner = some o
  ownerKept : ∀ k x, aget k r.owner = some x → aget k a.reg.owner = some x

theorem acquireAll_spec (cfg : Cfg) (o : OwnerName) (gen : Nat) (decl : List (Svc × Resp)) (r : Reg) (tr : List Svc)
    (hr : RegOK r) : AcqSpec r tr o (acquireAll cfg o gen r decl tr) := by
  fun_induction acquireAll cfg o gen r decl tr with
  | case1 r tr => exact ⟨hr, rfl, fun _ => Nat.le_refl _, fun k hk => Or.inl hk, fun k x hx => hx⟩
  | case2 r d ds tr _ ih => exact ih hr
  | case3 r d ds tr _ hacc ih =>
    obtain ⟨_, g2, _, g4, g5⟩ := register_ok r o d.1 ⟨gen, d.2⟩ ((register_snd r o d.1 _).symm.trans hacc)
    obtain ⟨i1, i2, i3, i6, i7⟩ := ih (register_regOK r o d.1 ⟨gen, d.2⟩ hr)
    refine ⟨i1, by rw [i2, g5], fun k => ?_,
      fun k hk => ?_, fun k x hx => i7 k x (register_owner_mono r o d.1 ⟨gen, d.2⟩ k x hx)⟩
    · have h := i3 k; have := count_track cfg tr d.1 k; rw [g2] at h; omega
    · rcases i6 k hk with h1 | h1
      · rcases (mem_track cfg tr d.1 k).mp h1 with h2 | h2
        · exact Or.inl h2
        · exact Or.inr (i7 _ o (by rw [g4, h2]; simp))
      · exact Or.inr h1
  | case4 r d ds tr _ hacc =>
    obtain ⟨_, g2, _, g4, g5⟩ := register_refused r o d.1 ⟨gen, d.2⟩ (by simpa [register_snd] using hacc)
    exact ⟨register_regOK r o d.1 ⟨gen, d.2⟩ hr, g5, fun k => by rw [g2, Nat.add_comm]; exact Nat.le_refl _,
      fun k hk => Or.inl hk, fun k x hx => by rw [g4]; exact hx⟩

/-- the tracked names account for every successful registration when the bookkeeping is exact, and also when the names
are distinct and none is tracked yet (a set then forgets nothing) -/
theorem acquireAll_tight (cfg : Cfg) (o : OwnerName) (gen : Nat) (decl : List (Svc × Resp)) (r : Reg) (tr : List Svc)
    (hx : Exact cfg ∨ ((decl.map (·.1)).Nodup ∧ ∀ x ∈ decl.map (·.1), x ∉ tr)) (k : Svc) :
    cntOf (acquireAll cfg o gen r decl tr).reg k + tr.count k
      = cntOf r k + (acquireAll cfg o gen r decl tr).tracked.count k := by
  fun_induction acquireAll cfg o gen r decl tr with
  | case1 r tr => rfl
  | case2 r d ds tr _ ih =>
    exact ih (hx.imp_right fun ⟨hn, hd⟩ => ⟨(List.nodup_cons.mp hn).2, fun x hx => hd x (List.mem_cons_of_mem _ hx)⟩)
  | case3 r d ds tr hsk hacc ih =>
    obtain ⟨_, g2, _, _, _⟩ := register_ok r o d.1 ⟨gen, d.2⟩ ((register_snd r o d.1 _).symm.trans hacc)
    have ht : cfg.trackAsSet = false ∨ tr.contains d.1 = false := by
      rcases hx with (h | h) | ⟨_, hd⟩
      · exact Or.inl h
      · right; simpa [h] using hsk
      · right; simpa using hd d.1 (by simp)
    have := ih (hx.imp_right fun ⟨hn, hd⟩ => ⟨(List.nodup_cons.mp hn).2, fun x hx hm => by
      rcases (mem_track cfg tr d.1 x).mp hm with h1 | h1
      · exact hd x (List.mem_cons_of_mem _ hx) h1
      · subst h1; exact (List.nodup_cons.mp hn).1 hx⟩)
    rw [track_exact cfg tr d.1 k ht, g2] at this
    omega
  | case4 r d ds tr _ hacc =>
    rw [(register_refused r o d.1 ⟨gen, d.2⟩ (by simpa [register_snd] using hacc)).2.1]

/-- A holder starts declarations: `tr` are the names it tracked before (owned by `o` then), `hs'` the holders afterwards.
Tightness survives when the acquisition itself is tight (`acquireAll_tight`). -/
theorem inv_acquire (cfg : Cfg) {st : MState} (hi : Inv st) (o : OwnerName) (gen : Nat) (decl : List (Svc × Resp))
    (tr : List Svc) (hs' : List Holder) (i : Bool) (htr : ∀ k ∈ tr, aget k st.reg.owner = some o)
    (hc : ∀ k, trackedCount hs' k + tr.count k
            = trackedCount st.holders k + (acquireAll cfg o gen st.reg decl tr).tracked.count k)
    (hp : ∀ h' ∈ hs', ∀ k ∈ h'.tracked, (∃ h ∈ st.holders, k ∈ h.tracked ∧ h.owner = h'.owner) ∨
            (k ∈ (acquireAll cfg o gen st.reg decl tr).tracked ∧ h'.owner = o)) :
    Inv ⟨(acquireAll cfg o gen st.reg decl tr).reg, hs', i⟩ ∧
    (Tight st → (∀ k, cntOf (acquireAll cfg o gen st.reg decl tr).reg k + tr.count k
                    = cntOf st.reg k + (acquireAll cfg o gen st.reg decl tr).tracked.count k) →
      Tight ⟨(acquireAll cfg o gen st.reg decl tr).reg, hs', i⟩) := by
  have q := acquireAll_spec cfg o gen decl st.reg tr hi.regOK
  generalize acquireAll cfg o gen st.reg decl tr = a at *
  have ge : ∀ k, trackedCount hs' k ≤ cntOf a.reg k := fun k => by
    have := hc k; have := q.grows k; have := hi.cntGe k; omega
  refine ⟨⟨q.regOK, ge, fun h' hm k hk => ?_, q.noUnder.trans hi.noUnder⟩, fun ht he k => ?_⟩
  · rcases hp h' hm k hk with ⟨h, hh, hk', e⟩ | ⟨hk', e⟩
    · exact e ▸ q.ownerKept k _ (hi.owner h hh k hk')
    · rcases q.owned k hk' with h1 | h1
      · exact e ▸ q.ownerKept k o (htr k h1)
      · exact e ▸ h1
  · show trackedCount hs' k = cntOf a.reg k
    have := hc k; have := he k; have := ht k; omega

theorem inv_defineStep (cfg : Cfg) (st : MState) (ctx : String) (fn : Option String) (var : String) (gen : Nat)
    (decl : List (Svc × Resp)) (hi : Inv st) :
    Inv (defineStep cfg st ctx fn var gen decl) ∧
    (Tight st → Exact cfg ∨ (decl.map (·.1)).Nodup → Tight (defineStep cfg st ctx fn var gen decl)) := by
  unfold defineStep
  split
  · have h0 := inv_release hi [] (st.holders ++ [newHolder cfg ctx fn var gen decl]) st.inadm
      (fun k => by simp [trackedCount_append, trackedCount_cons, trackedCount_nil, newHolder])
      (fun h' hm k hk => by
        rcases List.mem_append.mp hm with hm | hm
        · exact ⟨h', hm, hk, rfl⟩
        · rw [List.mem_singleton.mp hm] at hk; simp [newHolder] at hk)
    have := inv_unbind cfg ctx var h0.1 st.holders _ rfl st.inadm
    exact ⟨this.1, fun ht _ => this.2 (h0.2 ht)⟩
  · generalize hn : newHolder cfg ctx fn var gen decl = nh
    have ho : nh.owner = ownerFor cfg ctx fn := by rw [← hn]; rfl
    have h1 := inv_acquire cfg hi (ownerFor cfg ctx fn) gen decl []
      (st.holders ++ [{ nh with pending := [], tracked := (acquireAll cfg (ownerFor cfg ctx fn) gen st.reg decl []).tracked,
                                status := .running, failed := !(acquireAll cfg (ownerFor cfg ctx fn) gen st.reg decl []).ok }])
      st.inadm (fun k hk => by simp at hk)
      (fun k => by simp [trackedCount_append, trackedCount_cons, trackedCount_nil])
      (fun h' hm k hk => by
        rcases List.mem_append.mp hm with hm | hm
        · exact Or.inl ⟨h', hm, hk, rfl⟩
        · rw [List.mem_singleton.mp hm] at hk ⊢; exact Or.inr ⟨hk, ho⟩)
    have tight := acquireAll_tight cfg (ownerFor cfg ctx fn) gen decl st.reg []
    generalize acquireAll cfg (ownerFor cfg ctx fn) gen st.reg decl [] = a at h1 tight
    unfold startReg startHolder
    split
    · have := inv_unbind cfg ctx var h1.1 st.holders _ rfl st.inadm
      exact ⟨this.1, fun ht hx => this.2 (h1.2 ht (tight (hx.imp_right fun h => ⟨h, fun _ _ => List.not_mem_nil⟩)))⟩
    · have h2 := inv_release h1.1 a.tracked st.holders st.inadm
        (fun k => by simp [trackedCount_append, trackedCount_cons, trackedCount_nil])
        (fun h' hm k hk => ⟨h', List.mem_append_left _ hm, hk, rfl⟩)
      have := inv_unbind cfg ctx var h2.1 st.holders [] (List.append_nil _).symm st.inadm
      exact ⟨this.1, fun ht hx =>
        this.2 (h2.2 (h1.2 ht (tight (hx.imp_right fun h => ⟨h, fun _ _ => List.not_mem_nil⟩))))⟩

/-- One registration event of `GlobalContext.start()`: nothing happens, or the first delayed holder `h` of the
generation starts its next pending declaration `d` – an acquisition of one declaration that continues from the names
`h` tracks already – and is rolled back (all its names released, the manager gone) when `d` is refused. -/
theorem eventStep_cases (cfg : Cfg) (r : Reg) (ctx : String) (g : Nat) : ∀ hs : List Holder,
    (eventStepReg cfg r ctx g hs = r ∧ eventStepHolders cfg r ctx g hs = hs) ∨
    ∃ pre h post d ds a, hs = pre ++ h :: post ∧ h.pending = d :: ds ∧ a = acquireAll cfg h.owner h.gen r [d] h.tracked ∧
      eventStepReg cfg r ctx g hs = (if a.ok then a.reg else releaseList a.reg a.tracked) ∧
      eventStepHolders cfg r ctx g hs = pre ++ (if a.ok then
        [{ h with pending := ds, tracked := a.tracked, status := if ds.isEmpty then .running else .delayed }] else []) ++ post := by
  intro hs
  induction hs with
  | nil => exact Or.inl ⟨rfl, rfl⟩
  | cons h hs ih =>
    cases hd : isDelayed ctx g h
    · simp only [eventStepReg, eventStepHolders, hd, Bool.false_eq_true, if_false]
      rcases ih with ⟨b, c⟩ | ⟨pre, x, post, d, ds, a, e, hp, ha, b, c⟩
      · exact Or.inl ⟨b, by rw [c]⟩
      · exact Or.inr ⟨h :: pre, x, post, d, ds, a, by rw [e]; rfl, hp, ha, b, by rw [c]; rfl⟩
    · simp only [eventStepReg, eventStepHolders, hd, if_true]
      cases hp : h.pending with
      | nil => exact Or.inl ⟨by simp only [eventReg, hp], by simp only [eventHolder, hp]; rfl⟩
      | cons d ds =>
        refine Or.inr ⟨[], h, hs, d, ds, _, rfl, hp, rfl, ?_⟩
        cases hsk : (cfg.skipDup && h.tracked.contains d.1)
        · cases hr : (register r h.owner d.1 ⟨h.gen, d.2⟩).2 <;>
            simp only [eventReg, eventHolder, hp, acquireAll, hsk, hr, Bool.false_eq_true, if_false, if_true, true_and] <;> rfl
        · simp only [eventReg, eventHolder, hp, acquireAll, hsk, if_true, true_and]; rfl

theorem inv_event (cfg : Cfg) (st : MState) (ctx : String) (g : Nat) (i : Bool) (hi : Inv st) :
    Inv ⟨eventStepReg cfg st.reg ctx g st.holders, eventStepHolders cfg st.reg ctx g st.holders, i⟩ ∧
    (Tight st → Exact cfg → Tight ⟨eventStepReg cfg st.reg ctx g st.holders, eventStepHolders cfg st.reg ctx g st.holders, i⟩) := by
  rcases eventStep_cases cfg st.reg ctx g st.holders with ⟨b, c⟩ | ⟨pre, h, post, d, ds, a, e, _, rfl, b, c⟩
  · rw [b, c]; exact ⟨⟨hi.regOK, hi.cntGe, hi.owner, hi.noUnder⟩, fun ht _ => ht⟩
  rw [b, c]
  have mem : h ∈ st.holders := e ▸ List.mem_append_right _ List.mem_cons_self
  have h1 := inv_acquire cfg hi h.owner h.gen [d] h.tracked
    (pre ++ [{ h with pending := ds, tracked := (acquireAll cfg h.owner h.gen st.reg [d] h.tracked).tracked,
                      status := if ds.isEmpty then .running else .delayed }] ++ post) i
    (fun k hk => hi.owner h mem k hk)
    (fun k => by simp only [e, trackedCount_append, trackedCount_cons, trackedCount_nil]; omega)
    (fun h' hm k hk => by
      rcases List.mem_append.mp hm with hm | hm
      · rcases List.mem_append.mp hm with hm | hm
        · exact Or.inl ⟨h', e ▸ List.mem_append_left _ hm, hk, rfl⟩
        · rw [List.mem_singleton.mp hm] at hk ⊢; exact Or.inr ⟨hk, rfl⟩
      · exact Or.inl ⟨h', e ▸ List.mem_append_right _ (List.mem_cons_of_mem _ hm), hk, rfl⟩)
  have tight := acquireAll_tight cfg h.owner h.gen [d] st.reg h.tracked
  generalize acquireAll cfg h.owner h.gen st.reg [d] h.tracked = a at h1 tight
  by_cases hk : a.ok = true
  · rw [if_pos hk, if_pos hk]; exact ⟨h1.1, fun ht hx => h1.2 ht (tight (Or.inl hx))⟩
  · rw [if_neg hk, if_neg hk]
    have h2 := inv_release h1.1 a.tracked (pre ++ [] ++ post) i
      (fun k => by simp only [trackedCount_append, trackedCount_cons, trackedCount_nil]; omega)
      (fun h' hm k hk => by
        rcases List.mem_append.mp hm with hm | hm
        · exact ⟨h', by simp at hm; simp [hm], hk, rfl⟩
        · exact ⟨h', by simp [hm], hk, rfl⟩)
    exact ⟨h2.1, fun ht hx => h2.2 (h1.2 ht (tight (Or.inl hx)))⟩

theorem inv_startEvents (cfg : Cfg) (ctx : String) : ∀ (gs : List Nat) (st : MState), Inv st →
    Inv (startEvents cfg ctx st gs) ∧ (Tight st → Exact cfg → Tight (startEvents cfg ctx st gs)) := by
  intro gs
  induction gs with
  | nil => intro st hi; exact ⟨hi, fun ht _ => ht⟩
  | cons g gs ih =>
    intro st hi
    have h1 := inv_event cfg st ctx g (st.inadm || !(st.holders.any (isDelayed ctx g))) hi
    have h2 := ih _ h1.1
    exact ⟨h2.1, fun ht hx => h2.2 (h1.2 ht hx) hx⟩

/-- an operation that keeps the count tight: exact bookkeeping, or an immediate start of distinct names -/
def TightOp (cfg : Cfg) (op : Op) : Prop :=
  Exact cfg ∨ (cfg.delayTopLevel = false ∧
    ∀ ctx fn var gen decl, op = .define ctx fn var gen decl → ((foldDecl cfg decl).map (·.1)).Nodup)

theorem inv_step (cfg : Cfg) (st : MState) (op : Op) (hi : Inv st) :
    Inv (step cfg st op) ∧ (Tight st → TightOp cfg op → Tight (step cfg st op)) := by
  cases op with
  | define ctx fn var gen decl =>
    have := inv_defineStep cfg st ctx fn var gen (foldDecl cfg decl) hi
    exact ⟨this.1, fun ht hx => this.2 ht (hx.imp_right fun h => h.2 ctx fn var gen decl rfl)⟩
  | start ctx events =>
    simp only [step]
    split
    · rename_i hd
      have := inv_startEvents cfg ctx events st hi
      refine ⟨⟨this.1.regOK, this.1.cntGe, this.1.owner, this.1.noUnder⟩, fun ht hx => this.2 ht ?_⟩
      rcases hx with hx | hx
      · exact hx
      · rw [hx.1] at hd; cases hd
    · exact ⟨hi, fun ht _ => ht⟩
  | delete ctx var =>
    have := inv_unbind cfg ctx var hi st.holders [] (List.append_nil _).symm st.inadm
    rw [List.append_nil] at this
    exact ⟨this.1, fun ht _ => this.2 ht⟩
  | unload ctx =>
    have := inv_drop hi st.holders [] (List.append_nil _).symm (leaves cfg ctx) (fun h => h.ctx == ctx) st.inadm
    rw [List.append_nil, ← unloadReg_eq] at this
    exact ⟨this.1, fun ht _ => this.2 ht⟩

theorem inv_run (cfg : Cfg) : ∀ (ops : List Op) (st : MState), Inv st →
    Inv (run cfg st ops) ∧ (Tight st → (∀ op ∈ ops, TightOp cfg op) → Tight (run cfg st ops)) := by
  intro ops
  induction ops with
  | nil => intro st hi; exact ⟨hi, fun ht _ => ht⟩
  | cons op ops ih =>
    intro st hi
    have h1 := inv_step cfg st op hi
    have h2 := ih _ h1.1
    exact ⟨h2.1, fun ht hx => h2.2 (h1.2 ht (hx op List.mem_cons_self)) fun o ho => hx o (List.mem_cons_of_mem _ ho)⟩

theorem inv_reach (cfg : Cfg) (ops : List Op) : Inv (run cfg {} ops) := (inv_run cfg ops {} inv_init.1).1

theorem tight_reach (cfg : Cfg) (ops : List Op) (hx : ∀ op ∈ ops, TightOp cfg op) : Tight (run cfg {} ops) :=
  (inv_run cfg ops {} inv_init.1).2 inv_init.2 hx

theorem unbindHolders_sub (cfg : Cfg) (ctx var : String) (hs : List Holder) (hr : ∀ h ∈ hs, released cfg h = true) :
    ∀ x ∈ unbindHolders cfg ctx var hs, x ∈ hs := by
  intro x hx
  rw [unbindHolders_eq] at hx
  obtain ⟨y, hy, rfl⟩ := List.mem_map.mp hx
  obtain ⟨m, hn⟩ := List.mem_filter.mp hy
  have : isVar ctx var y = false := by simpa [stops, hr y m] using hn
  simpa [clearBound, this] using m

theorem eventStepHolders_bound (cfg : Cfg) (r : Reg) (ctx : String) (g : Nat) (hs : List Holder)
    (hb : ∀ x ∈ hs, x.bound = true) : ∀ x ∈ eventStepHolders cfg r ctx g hs, x.bound = true := by
  intro x hx
  rcases eventStep_cases cfg r ctx g hs with ⟨_, c⟩ | ⟨pre, h, post, d, ds, a, rfl, _, _, _, c⟩
  · exact hb x (c ▸ hx)
  · rw [c] at hx
    rcases List.mem_append.mp hx with hx | hx
    · rcases List.mem_append.mp hx with hx | hx
      · exact hb x (by simp [hx])
      · split at hx
        · rw [List.mem_singleton.mp hx]; exact hb h (by simp)
        · cases hx
    · exact hb x (by simp [hx])

theorem startEvents_bound (cfg : Cfg) (ctx : String) : ∀ (gs : List Nat) (st : MState), (∀ x ∈ st.holders, x.bound = true) →
    ∀ x ∈ (startEvents cfg ctx st gs).holders, x.bound = true := by
  intro gs
  induction gs with
  | nil => intro _ hb; exact hb
  | cons g gs ih => intro st hb; exact ih _ (eventStepHolders_bound cfg st.reg ctx g st.holders hb)

/-- When a manager whose function dies before the delayed start is discarded (`dropDelayed`), or nothing is delayed at
all, every holder stays bound to its variable; and where nothing is delayed every holder is running.  A `del` or a
rebinding then removes exactly the holders of the variable, an unload (since the repair of C12-F11) those of the context. -/
theorem holders_live (cfg : Cfg) (hc : cfg.dropDelayed = true ∨ cfg.delayTopLevel = false) (he : cfg.regEarly = true) :
    ∀ (ops : List Op) (st : MState),
      (∀ h ∈ st.holders, h.bound = true ∧ (cfg.delayTopLevel = false → h.status = .running)) →
      ∀ h ∈ (run cfg st ops).holders, h.bound = true ∧ (cfg.delayTopLevel = false → h.status = .running) := by
  intro ops
  induction ops with
  | nil => intro st hp; exact hp
  | cons op ops ih =>
    intro st hp
    refine ih _ ?_
    have rel : ∀ h ∈ st.holders, released cfg h = true := fun h hm => by
      rcases hc with hc | hc
      · simp [released, hc]
      · simp [released, (hp h hm).2 hc]
    cases op with
    | define ctx fn var gen decl =>
      intro x hx
      simp only [step, defineStep] at hx
      split at hx
      · rename_i hd
        rcases List.mem_append.mp hx with e | e
        · exact hp x (unbindHolders_sub cfg ctx var _ rel x e)
        · rw [List.mem_singleton.mp e]
          exact ⟨rfl, fun h => by simp [h] at hd⟩
      · rcases List.mem_append.mp hx with e | e
        · exact hp x (unbindHolders_sub cfg ctx var _ rel x e)
        · unfold startHolder at e
          split at e
          · rw [List.mem_singleton.mp e]; exact ⟨rfl, fun _ => rfl⟩
          · cases e
    | start ctx events =>
      simp only [step]
      split
      · rename_i hd
        exact fun x hx => ⟨startEvents_bound cfg ctx events st (fun y hy => (hp y hy).1) x hx, fun h => by simp [h] at hd⟩
      · exact hp
    | delete ctx var => exact fun x hx => hp x (unbindHolders_sub cfg ctx var _ rel x hx)
    | unload ctx =>
      intro x hx
      obtain ⟨y, hy, rfl⟩ := List.mem_map.mp hx
      obtain ⟨m, hl⟩ := List.mem_filter.mp hy
      have hc : (y.ctx == ctx) = false := by simpa [leaves, he] using hl
      simpa [orphan, hc] using hp y m

/-- `D` is the whole declaration list of the definition -/
theorem acquireAll_ok (cfg : Cfg) (o : OwnerName) (gen : Nat) (D : List (Svc × Resp))
    (decl : List (Svc × Resp)) (r : Reg) (tr : List Svc) (hD : ∀ d ∈ decl, d ∈ D)
    (hinv : ∀ x ∈ tr, ∃ rs, (x, rs) ∈ D ∧ aget x r.handler = some ⟨gen, rs⟩)
    (hok : (acquireAll cfg o gen r decl tr).ok = true) :
    (∀ x ∈ (acquireAll cfg o gen r decl tr).tracked,
      ∃ rs, (x, rs) ∈ D ∧ aget x (acquireAll cfg o gen r decl tr).reg.handler = some ⟨gen, rs⟩) ∧
    (∀ k ∈ decl.map (·.1), k ∈ (acquireAll cfg o gen r decl tr).tracked) ∧
    (∀ x ∈ tr, x ∈ (acquireAll cfg o gen r decl tr).tracked) := by
  fun_induction acquireAll cfg o gen r decl tr with
  | case1 r tr => exact ⟨hinv, fun k hk => absurd hk List.not_mem_nil, fun x hx => hx⟩
  | case2 r d ds tr hsk ih =>
    obtain ⟨i1, i2, i3⟩ := ih (fun x hx => hD x (List.mem_cons_of_mem _ hx)) hinv hok
    refine ⟨i1, fun k hk => ?_, i3⟩
    rcases List.mem_cons.mp hk with e | e
    · have : d.1 ∈ tr := List.contains_iff_mem.mp (Bool.and_eq_true _ _ ▸ hsk).2
      exact e ▸ i3 _ this
    · exact i2 k e
  | case3 r d ds tr _ hacc ih =>
    obtain ⟨_, _, g3, _, _⟩ := register_ok r o d.1 ⟨gen, d.2⟩ ((register_snd r o d.1 _).symm.trans hacc)
    obtain ⟨i1, i2, i3⟩ := ih (fun x hx => hD x (List.mem_cons_of_mem _ hx)) (fun x hx => by
      by_cases e : x = d.1
      · exact ⟨d.2, e ▸ hD d List.mem_cons_self, by rw [g3, if_pos e]⟩
      · obtain ⟨rs, a1, a2⟩ := hinv x (((mem_track cfg tr d.1 x).mp hx).resolve_right e)
        exact ⟨rs, a1, by rw [g3, if_neg e, a2]⟩) hok
    refine ⟨i1, fun k hk => ?_, fun x hx => i3 x ((mem_track cfg tr d.1 x).mpr (Or.inl hx))⟩
    rcases List.mem_cons.mp hk with e | e
    · exact e ▸ i3 _ ((mem_track cfg tr d.1 d.1).mpr (Or.inr rfl))
    · exact i2 k e
  | case4 r d ds tr _ _ => cases hok

/-! ### Home Assistant's own table (`Reg.ha`, keyed by the lower-cased name) agrees with `handler` when keys are folded -/

theorem toLower_idem (c : Char) : c.toLower.toLower = c.toLower := by
  unfold Char.toLower
  by_cases h : c.val ≥ 'A'.val ∧ c.val ≤ 'Z'.val
  · simp only [h, and_self, dite_true]
    have h1 := h.1
    have h2 := h.2
    have : ¬ ((c.val + ('a'.val - 'A'.val)) ≥ 'A'.val ∧ (c.val + ('a'.val - 'A'.val)) ≤ 'Z'.val) := by
      intro ⟨_, hb⟩
      simp [UInt32.le_iff_toNat_le, UInt32.toNat_add] at h1 h2 hb
      omega
    simp only [this, dite_false]
  · simp only [h, dite_false]

theorem lower_idem (s : String) : lower (lower s) = lower s := by
  simp [lower, String.toList_ofList, List.map_map, Function.comp_def, toLower_idem]

def Low (k : Svc) : Prop := lower k = k
def HaOK (r : Reg) : Prop := r.ha = r.handler
def LowHolder (h : Holder) : Prop := (∀ d ∈ h.pending, Low d.1) ∧ (∀ k ∈ h.tracked, Low k)
def HaInv (st : MState) : Prop := HaOK st.reg ∧ ∀ h ∈ st.holders, LowHolder h

theorem foldDecl_low (cfg : Cfg) (hf : cfg.foldCase = true) (decl : List (Svc × Resp)) :
    ∀ d ∈ foldDecl cfg decl, Low d.1 := by
  intro d hd
  simp only [foldDecl, List.mem_map] at hd
  obtain ⟨x, _, rfl⟩ := hd
  simp [Low, keyOf, hf, lower_idem]

theorem register_ha (r : Reg) (o : OwnerName) (k : Svc) (h : Handler) (hk : Low k) (hr : HaOK r) :
    HaOK (register r o k h).1 := by
  simp only [HaOK, Low] at *
  by_cases ha : accepts r o k = true
  · simp [register, ha, hk, hr]
  · simp [register, ha, hr]

theorem remove_ha (r : Reg) (k : Svc) (hk : Low k) (hr : HaOK r) : HaOK (remove r k) := by
  simp only [HaOK, Low] at *
  by_cases h1 : cntOf r k > 1
  · rw [remove_gt r k h1]; exact hr
  · rw [remove_le r k h1]; simp [hk, hr]

theorem releaseList_ha : ∀ (l : List Svc) (r : Reg), (∀ k ∈ l, Low k) → HaOK r → HaOK (releaseList r l) := by
  intro l
  induction l with
  | nil => intro r _ hr; exact hr
  | cons k ks ih =>
    intro r hl hr
    simp only [releaseList]
    exact ih _ (fun x hx => hl x (by simp [hx])) (remove_ha r k (hl k (by simp)) hr)

theorem acquireAll_ha (cfg : Cfg) (o : OwnerName) (gen : Nat) (decl : List (Svc × Resp)) (r : Reg) (tr : List Svc)
    (hd : ∀ d ∈ decl, Low d.1) (ht : ∀ k ∈ tr, Low k) (hr : HaOK r) :
    HaOK (acquireAll cfg o gen r decl tr).reg ∧ ∀ k ∈ (acquireAll cfg o gen r decl tr).tracked, Low k := by
  fun_induction acquireAll cfg o gen r decl tr with
  | case1 r tr => exact ⟨hr, ht⟩
  | case2 r d ds tr _ ih => exact ih (fun x hx => hd x (List.mem_cons_of_mem _ hx)) ht hr
  | case3 r d ds tr _ _ ih =>
    refine ih (fun x hx => hd x (List.mem_cons_of_mem _ hx)) (fun k hk => ?_)
      (register_ha r o d.1 _ (hd d List.mem_cons_self) hr)
    rcases (mem_track cfg tr d.1 k).mp hk with h | h
    · exact ht k h
    · exact h ▸ hd d List.mem_cons_self
  | case4 r d ds tr _ _ => exact ⟨register_ha r o d.1 _ (hd d List.mem_cons_self) hr, ht⟩

/-- the shape of `inv_drop` again: the names given back are lower-case, so Home Assistant drops the same entries -/
theorem haInv_drop {st : MState} (h : HaInv st) (hs extra : List Holder) (hst : st.holders = hs ++ extra) (p t : Holder → Bool)
    (i : Bool) :
    HaInv ⟨releaseList st.reg ((hs.filter p).flatMap (·.tracked)), (hs.filter (fun h => !p h)).map (clearBound t) ++ extra, i⟩ := by
  have hl : ∀ x ∈ hs, LowHolder x := fun x hx => h.2 x (hst ▸ List.mem_append_left _ hx)
  refine ⟨releaseList_ha _ _ (fun k hk => ?_) h.1, fun x hx => ?_⟩
  · obtain ⟨y, hy, hk⟩ := List.mem_flatMap.mp hk
    exact (hl y (List.mem_filter.mp hy).1).2 k hk
  rcases List.mem_append.mp hx with hx | hx
  · obtain ⟨y, hy, rfl⟩ := List.mem_map.mp hx
    have := hl y (List.mem_filter.mp hy).1
    exact ⟨by rw [(clearBound_fields t y).2.2]; exact this.1, by rw [(clearBound_fields t y).1]; exact this.2⟩
  · exact h.2 x (hst ▸ List.mem_append_right _ hx)

theorem haInv_unbind (cfg : Cfg) (ctx var : String) {st : MState} (h : HaInv st) (hs extra : List Holder)
    (hst : st.holders = hs ++ extra) (i : Bool) :
    HaInv ⟨unbindReg cfg st.reg ctx var hs, unbindHolders cfg ctx var hs ++ extra, i⟩ := by
  rw [unbindReg_eq, unbindHolders_eq]
  exact haInv_drop h hs extra hst _ _ i

theorem haInv_event (cfg : Cfg) (st : MState) (ctx : String) (g : Nat) (i : Bool) (h : HaInv st) :
    HaInv ⟨eventStepReg cfg st.reg ctx g st.holders, eventStepHolders cfg st.reg ctx g st.holders, i⟩ := by
  rcases eventStep_cases cfg st.reg ctx g st.holders with ⟨b, c⟩ | ⟨pre, x, post, d, ds, a, e, hp, rfl, b, c⟩
  · rw [b, c]; exact h
  rw [b, c]
  have hx : LowHolder x := h.2 x (e ▸ List.mem_append_right _ List.mem_cons_self)
  have rest : ∀ y ∈ pre ++ post, LowHolder y := fun y hy => h.2 y (by
    rw [e]; rcases List.mem_append.mp hy with hy | hy <;> simp [hy])
  obtain ⟨a1, a2⟩ := acquireAll_ha cfg x.owner x.gen [d] st.reg x.tracked
    (fun y hy => hx.1 y (by rw [hp, List.mem_singleton.mp hy]; exact List.mem_cons_self)) hx.2 h.1
  by_cases hk : (acquireAll cfg x.owner x.gen st.reg [d] x.tracked).ok = true
  · rw [if_pos hk, if_pos hk]
    refine ⟨a1, fun y hy => ?_⟩
    simp only [List.append_assoc, List.singleton_append, List.mem_append, List.mem_cons] at hy
    rcases hy with hy | rfl | hy
    · exact rest y (List.mem_append_left _ hy)
    · exact ⟨fun y hy => hx.1 y (by rw [hp]; exact List.mem_cons_of_mem _ hy), a2⟩
    · exact rest y (List.mem_append_right _ hy)
  · rw [if_neg hk, if_neg hk]; exact ⟨releaseList_ha _ _ a2 a1, by simpa using rest⟩

theorem haInv_startEvents (cfg : Cfg) (ctx : String) : ∀ (gs : List Nat) (st : MState), HaInv st → HaInv (startEvents cfg ctx st gs) := by
  intro gs
  induction gs with
  | nil => intro _ h; exact h
  | cons g gs ih => intro st h; exact ih _ (haInv_event cfg st ctx g _ h)

theorem haInv_defineStep (cfg : Cfg) (st : MState) (ctx : String) (fn : Option String) (var : String) (gen : Nat)
    (decl : List (Svc × Resp)) (hd : ∀ d ∈ decl, Low d.1) (h : HaInv st) : HaInv (defineStep cfg st ctx fn var gen decl) := by
  unfold defineStep
  split
  · have h0 : HaInv ⟨st.reg, st.holders ++ [newHolder cfg ctx fn var gen decl], st.inadm⟩ := ⟨h.1, fun x hx => by
      rcases List.mem_append.mp hx with hx | hx
      · exact h.2 x hx
      · rw [List.mem_singleton.mp hx]; exact ⟨hd, fun k hk => by simp [newHolder] at hk⟩⟩
    exact haInv_unbind cfg ctx var h0 st.holders _ rfl st.inadm
  · obtain ⟨a1, a2⟩ := acquireAll_ha cfg (ownerFor cfg ctx fn) gen decl st.reg [] hd (fun k hk => by simp at hk) h.1
    generalize acquireAll cfg (ownerFor cfg ctx fn) gen st.reg decl [] = a at a1 a2
    unfold startReg startHolder
    split
    · refine haInv_unbind cfg ctx var (st := ⟨a.reg, st.holders ++ [_], st.inadm⟩) ⟨a1, fun x hx => ?_⟩ st.holders _ rfl _
      rcases List.mem_append.mp hx with hx | hx
      · exact h.2 x hx
      · rw [List.mem_singleton.mp hx]; exact ⟨fun _ hm => absurd hm List.not_mem_nil, a2⟩
    · exact haInv_unbind cfg ctx var (st := ⟨releaseList a.reg a.tracked, st.holders, st.inadm⟩)
        ⟨releaseList_ha _ _ a2 a1, h.2⟩ st.holders [] (List.append_nil _).symm _

theorem haInv_step (cfg : Cfg) (hf : cfg.foldCase = true) (st : MState) (op : Op) (h : HaInv st) : HaInv (step cfg st op) := by
  cases op with
  | define ctx fn var gen decl => exact haInv_defineStep cfg st ctx fn var gen _ (foldDecl_low cfg hf decl) h
  | start ctx events =>
    simp only [step]
    split
    · exact haInv_startEvents cfg ctx events st h
    · exact h
  | delete ctx var =>
    have := haInv_unbind cfg ctx var h st.holders [] (List.append_nil _).symm st.inadm
    rwa [List.append_nil] at this
  | unload ctx =>
    have := haInv_drop h st.holders [] (List.append_nil _).symm (leaves cfg ctx) (fun h => h.ctx == ctx) st.inadm
    rwa [List.append_nil, ← unloadReg_eq] at this

theorem haInv_run (cfg : Cfg) (hf : cfg.foldCase = true) : ∀ (ops : List Op) (st : MState), HaInv st → HaInv (run cfg st ops) := by
  intro ops
  induction ops with
  | nil => intro st h; exact h
  | cons op ops ih => intro st h; simp only [run]; exact ih _ (haInv_step cfg hf st op h)

/-! ### splitting the keyword arguments of an outgoing call -/

theorem findArg_none (k : String) : ∀ data : List Arg, findArg k data = none → ∀ a ∈ data, a.key ≠ k := by
  intro data
  induction data with
  | nil => intro _ a ha; cases ha
  | cons x xs ih =>
    intro hf a ha
    unfold findArg at hf
    split at hf
    · cases hf
    · rename_i hx
      rcases List.mem_cons.mp ha with rfl | ha
      · exact hx
      · exact ih hf a ha

theorem findArg_unique (k : String) : ∀ data : List Arg, (data.map (·.key)).Nodup → ∀ a, findArg k data = some a →
    ∀ b ∈ data, b.key = k → b = a := by
  intro data
  induction data with
  | nil => intro _ a hf; cases hf
  | cons x xs ih =>
    intro hn a hf b hb hk
    rw [List.map_cons, List.nodup_cons] at hn
    unfold findArg at hf
    split at hf
    · rename_i hx
      rcases List.mem_cons.mp hb with rfl | hb
      · exact Option.some.inj hf
      · exact absurd (hx ▸ hk ▸ List.mem_map_of_mem hb) hn.1
    · rename_i hx
      rcases List.mem_cons.mp hb with rfl | hb
      · exact absurd hk hx
      · exact ih hn.2 a hf b hb hk

theorem splitOne_data (row : String × List Ty) (acc : List Arg × List Arg) (hn : (acc.2.map (·.key)).Nodup) :
    (splitOne none row acc).2 = acc.2.filter (fun a => !(a.key == row.1 && row.2.contains a.ty)) := by
  unfold splitOne
  cases hf : findArg row.1 acc.2 with
  | none =>
    refine (List.filter_eq_self.mpr fun a ha => ?_).symm
    simp [findArg_none _ _ hf a ha]
  | some a =>
    have hu := findArg_unique row.1 acc.2 hn a hf
    cases ht : row.2.contains a.ty
    · simp only [ht, Bool.false_eq_true, if_false]
      refine (List.filter_eq_self.mpr fun b hb => ?_).symm
      by_cases e : b.key = row.1
      · rw [hu b hb e, ht]; simp
      · simp [e]
    · simp only [ht, if_true]
      refine List.filter_congr fun b hb => ?_
      by_cases e : b.key = row.1
      · rw [hu b hb e, ht]; simp [← e, hu b hb e]
      · have e' : (b.key == row.1) = false := by simpa using e
        simp [bne, e']

theorem splitRows_data : ∀ (tbl : List (String × List Ty)) (acc : List Arg × List Arg), (acc.2.map (·.key)).Nodup →
    (tbl.foldl (fun acc row => splitOne none row acc) acc).2
      = acc.2.filter (fun a => tbl.all (fun row => !(a.key == row.1 && row.2.contains a.ty))) := by
  intro tbl
  induction tbl with
  | nil => intro acc _; exact (List.filter_eq_self.mpr (fun _ _ => rfl)).symm
  | cons row rest ih =>
    intro acc h
    have hn : ((splitOne none row acc).2.map (·.key)).Nodup := by
      rw [splitOne_data row acc h]; exact h.sublist (List.filter_sublist.map _)
    rw [List.foldl_cons, ih _ hn, splitOne_data row acc h, List.filter_filter]
    exact List.filter_congr fun a _ => by rw [List.all_cons, Bool.and_comm]

/-! ### evaluating a concrete history on keys

`step` folds the declared names of a definition itself, so that an evaluation of `run` carries every key around as an
unevaluated `keyOf cfg k` and computes `lower` again wherever two keys are compared.  `runK` is the machine on
operations whose declarations hold the keys already.  A test vector is first brought to `runK` on literal keys – by
`run_low` when its names are lower-case, by `run_asWritten` / `run_folded` when the letter case is what it is about –
and the lower-casing of its names is done once, in `lower_names`. -/

def stepK (cfg : Cfg) (st : MState) : Op → MState
  | .define ctx fn var gen decl => defineStep cfg st ctx fn var gen decl
  | op => step cfg st op

def runK (cfg : Cfg) : MState → List Op → MState
  | st, [] => st
  | st, op :: ops => runK cfg (stepK cfg st op) ops

theorem run_asWritten (cfg : Cfg) (hf : cfg.foldCase = false) : ∀ (ops : List Op) (st : MState),
    run cfg st ops = runK cfg st ops := by
  intro ops
  induction ops with
  | nil => intro _; rfl
  | cons op ops ih =>
    intro st
    have : step cfg st op = stepK cfg st op := by
      cases op <;> simp [step, stepK, foldDecl, keyOf, hf]
    rw [run, runK, this, ih]

theorem run_folded (cfg : Cfg) (hf : cfg.foldCase = true) : ∀ (ops : List Op) (st : MState),
    run cfg st ops = runK cfg st (ops.map lowOp) := by
  intro ops
  induction ops with
  | nil => intro _; rfl
  | cons op ops ih =>
    intro st
    have : step cfg st op = stepK cfg st (lowOp op) := by
      cases op <;> simp [step, stepK, lowOp, foldDecl, keyOf, hf]
    rw [run, List.map_cons, runK, this, ih]

theorem run_low (cfg : Cfg) (ops : List Op) (st : MState) (h : ops.map lowOp = ops) : run cfg st ops = runK cfg st ops := by
  cases hf : cfg.foldCase
  · exact run_asWritten cfg hf ops st
  · rw [run_folded cfg hf, h]

/-- the service names of the test vectors, lower-cased -/
theorem lower_names :
    lower "pyscript.s1" = "pyscript.s1" ∧ lower "pyscript.s2" = "pyscript.s2" ∧ lower "test.s3" = "test.s3" ∧
    lower "pyscript.case1" = "pyscript.case1" ∧ lower "pyscript.Case1" = "pyscript.case1" ∧
    lower "pyscript.CASE1" = "pyscript.case1" := by
  simp only [lower, String.reduceToList, List.map, Char.reduceToLower, and_self]

end PsModel.C12
