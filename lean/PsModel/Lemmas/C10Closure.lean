import PsModel.Lemmas.C10
/-! `import_recurse` with its `visited` / memo tables computes the transitive import closure (acyclic graphs) -/
namespace PsModel.C10
open PsModel.C10.Spec

abbrev Tbl := List (Name × List Name)

theorem memoHas_eq_isSome (t : Tbl) (k : Name) : memoHas t k = (t.lookup k).isSome := by
  induction t with
  | nil => rfl
  | cons kv t ih =>
    rw [memoHas, List.any_cons, ← memoHas, ih, List.lookup_cons, BEq.comm (a := k)]
    cases kv.1 == k <;> rfl

theorem memoGet_of_not_has (t : Tbl) {k : Name} (h : memoHas t k = false) : memoGet t k = [] := by
  rw [memoHas_eq_isSome, Option.isSome_eq_false_iff, Option.isNone_iff_eq_none] at h
  rw [memoGet, h]; rfl

theorem lookup_memoAdd (t : Tbl) (n k : Name) (xs : List Name) :
    (memoAdd t n xs).lookup k = (t.lookup k).map fun v => if k = n then v ++ xs else v := by
  induction t with
  | nil => rfl
  | cons kv t ih =>
    obtain ⟨k', v⟩ := kv
    have hd : (if (k' == n) = true then (k', v ++ xs) else (k', v)) = (k', if k' = n then v ++ xs else v) := by
      by_cases h : k' = n <;> simp [h]
    rw [memoAdd, List.map_cons, ← memoAdd, hd, List.lookup_cons, List.lookup_cons, ih]
    cases hk : k == k' with
    | false => rfl
    | true => rw [eq_of_beq hk]; rfl

theorem memoHas_add (t : Tbl) (n k : Name) (xs : List Name) : memoHas (memoAdd t n xs) k = memoHas t k := by
  rw [memoHas_eq_isSome, memoHas_eq_isSome, lookup_memoAdd, Option.isSome_map]

theorem memoGet_add_ne (t : Tbl) {n k : Name} (xs : List Name) (h : k ≠ n) :
    memoGet (memoAdd t n xs) k = memoGet t k := by
  rw [memoGet, memoGet, lookup_memoAdd]
  simp only [if_neg h, Option.map_id']

theorem memoGet_add_eq (t : Tbl) {n : Name} (xs : List Name) (h : memoHas t n = true) :
    memoGet (memoAdd t n xs) n = memoGet t n ++ xs := by
  rw [memoHas_eq_isSome] at h
  obtain ⟨v, hv⟩ := Option.isSome_iff_exists.mp h
  rw [memoGet, memoGet, lookup_memoAdd, hv]
  simp

theorem memoHas_append (t : Tbl) (n k : Name) (xs : List Name) :
    memoHas (t ++ [(n, xs)]) k = (memoHas t k || n == k) := by
  simp [memoHas, List.any_append]

theorem memoGet_append (t : Tbl) (n k : Name) (xs : List Name) :
    memoGet (t ++ [(n, xs)]) k = if memoHas t k then memoGet t k else if n = k then xs else [] := by
  rw [memoGet, memoGet, List.lookup_append, memoHas_eq_isSome]
  cases t.lookup k with
  | some v => rfl
  | none =>
    by_cases h : n = k
    · subst h; simp
    · have hb : (k == n) = false := beq_eq_false_iff_ne.mpr (Ne.symm h)
      simp [List.lookup_cons, h, hb]

theorem memoGet_append_of_has (t : Tbl) {n k : Name} (xs : List Name) (h : memoHas t k = true) :
    memoGet (t ++ [(n, xs)]) k = memoGet t k := by
  rw [memoGet_append, if_pos h]

theorem memoGet_append_ne (t : Tbl) {n k : Name} (xs : List Name) (h : k ≠ n) :
    memoGet (t ++ [(n, xs)]) k = memoGet t k := by
  rw [memoGet_append, if_neg (Ne.symm h)]
  cases hh : memoHas t k with
  | true => rfl
  | false => exact (memoGet_of_not_has t hh).symm

theorem reach_iff (cs : List Ctx) (n x : Name) :
    Reach cs n x ↔ ∃ c, findCtx cs n = some c ∧ ∃ i ∈ c.imports, x = i ∨ Reach cs i x := by
  constructor
  · intro h
    cases h with
    | direct hf hi => exact ⟨_, hf, _, hi, .inl rfl⟩
    | step hf hi hr => exact ⟨_, hf, _, hi, .inr hr⟩
  · rintro ⟨c, hf, i, hi, rfl | hr⟩
    · exact .direct hf hi
    · exact .step hf hi hr

theorem reach_trans {cs : List Ctx} {a b c : Name} (h1 : Reach cs a b) (h2 : Reach cs b c) : Reach cs a c := by
  induction h1 with
  | direct hf hi => exact .step hf hi h2
  | step hf hi _ ih => exact .step hf hi (ih h2)

/-- invariant of the tables: every finished entry (not on the recursion stack `S`) holds the full closure;
visited names without an entry are names of contexts that are not loaded -/
structure MemoInv (cs : List Ctx) (S : List Name) (m : Memo) : Prop where
  fin : ∀ k, memoHas m.tbl k = true → k ∉ S → ∀ x, x ∈ memoGet m.tbl k ↔ Reach cs k x
  vis : ∀ v, v ∈ m.visited → memoHas m.tbl v = false → findCtx cs v = none

namespace MemoInv

theorem add {cs : List Ctx} {S : List Name} {m : Memo} (h : MemoInv cs S m) {n : Name} (hn : n ∈ S)
    (xs : List Name) : MemoInv cs S { m with tbl := memoAdd m.tbl n xs } := by
  constructor
  · intro k hk hkS x
    have hkn : k ≠ n := fun e => hkS (e ▸ hn)
    simp only [memoHas_add] at hk
    simp only [memoGet_add_ne _ _ hkn]
    exact h.fin k hk hkS x
  · intro v hv hh
    simp only [memoHas_add] at hh
    exact h.vis v hv hh

/-- entering a node: it is marked visited, gets an empty entry and goes on the stack -/
theorem push {cs : List Ctx} {S : List Name} {m : Memo} (h : MemoInv cs S m) (n : Name) :
    MemoInv cs (n :: S) { visited := n :: m.visited, tbl := m.tbl ++ [(n, [])] } := by
  constructor
  · intro k hk hkS x
    have hkn : k ≠ n := fun e => hkS (e ▸ List.mem_cons_self)
    have hk' : memoHas m.tbl k = true := by
      rw [memoHas_append, beq_eq_false_iff_ne.mpr (Ne.symm hkn), Bool.or_false] at hk
      exact hk
    simp only [memoGet_append_ne _ _ hkn]
    exact h.fin k hk' (fun hs => hkS (List.mem_cons_of_mem _ hs)) x
  · intro v hv hh
    rw [memoHas_append, Bool.or_eq_false_iff] at hh
    rcases List.mem_cons.mp hv with rfl | hv
    · exact absurd hh.2 (by simp)
    · exact h.vis v hv hh.1

end MemoInv

structure CallOK (cs : List Ctx) (S : List Name) (n : Name) (m : Memo) (r : List Name × Memo) : Prop where
  res : ∀ x, x ∈ r.1 ↔ Reach cs n x
  inv : MemoInv cs S r.2
  frame : ∀ s, s ∈ S → memoGet r.2.tbl s = memoGet m.tbl s
  mono : ∀ k, memoHas m.tbl k = true → memoHas r.2.tbl k = true
  ret : r.1 = memoGet r.2.tbl n

def RecOK (cs : List Ctx) (rank : Name → Nat) (bound : Nat) (rec : Name → Memo → List Name × Memo) : Prop :=
  ∀ n m S, rank n < bound → (∀ s ∈ S, rank n < rank s) → MemoInv cs S m → CallOK cs S n m (rec n m)

/-- invariant of the loop `for imp_name in ctx.get_imports()` of node `n` after the imports `seen`: the entry of `n`
holds `seen` and what is reachable from `seen`; the entries of the stack below are as on entry (`m0`) -/
structure LoopInv (cs : List Ctx) (S : List Name) (n : Name) (m0 : Memo) (seen : List Name) (m : Memo) : Prop where
  inv : MemoInv cs (n :: S) m
  has : memoHas m.tbl n = true
  acc : ∀ x, x ∈ memoGet m.tbl n ↔ ∃ i ∈ seen, x = i ∨ Reach cs i x
  frame : ∀ s ∈ S, memoGet m.tbl s = memoGet m0.tbl s
  mono : ∀ k, memoHas m0.tbl k = true → memoHas m.tbl k = true

theorem recStep_ok {cs : List Ctx} {rank : Name → Nat} {bound : Nat} {rec : Name → Memo → List Name × Memo}
    (hrec : RecOK cs rank bound rec) {n : Name} {S : List Name} {m0 m : Memo} {seen : List Name}
    (hS : ∀ s ∈ S, rank n < rank s) (hb : rank n ≤ bound) (h : LoopInv cs S n m0 seen m) {imp : Name}
    (hri : rank imp < rank n) : LoopInv cs S n m0 (seen ++ [imp]) (recStep rec n m imp) := by
  have hnS : ∀ s ∈ S, s ≠ n := fun s hs e => Nat.lt_irrefl _ (e ▸ hS s hs)
  have hcall := hrec imp { m with tbl := memoAdd m.tbl n [imp] } (n :: S) (Nat.lt_of_lt_of_le hri hb)
    (fun s hs => (List.mem_cons.mp hs).elim (fun e => e ▸ hri) fun hs => Nat.lt_trans hri (hS s hs))
    (h.inv.add List.mem_cons_self _)
  unfold recStep
  generalize rec imp { m with tbl := memoAdd m.tbl n [imp] } = r at hcall
  have hhas : memoHas r.2.tbl n = true := hcall.mono n ((memoHas_add ..).trans h.has)
  have hget : memoGet r.2.tbl n = memoGet m.tbl n ++ [imp] :=
    (hcall.frame n List.mem_cons_self).trans (memoGet_add_eq _ _ h.has)
  refine ⟨hcall.inv.add List.mem_cons_self _, (memoHas_add ..).trans hhas, fun x => ?_, fun s hs => ?_, fun k hk => ?_⟩
  · simp only [memoGet_add_eq _ _ hhas, hget, List.mem_append, List.mem_singleton, h.acc x, hcall.res x,
      or_and_right, exists_or, exists_eq_left, or_assoc]
  · simp only [memoGet_add_ne _ _ (hnS s hs)]
    rw [hcall.frame s (List.mem_cons_of_mem _ hs)]
    simp only [memoGet_add_ne _ _ (hnS s hs)]
    exact h.frame s hs
  · simp only [memoHas_add]
    exact hcall.mono k ((memoHas_add ..).trans (h.mono k hk))

/-- `import_recurse` meets its contract for every depth budget exceeding the rank of the start node -/
theorem importRecurse_ok (cs : List Ctx) (rank : Name → Nat) (hacyc : Acyclic cs rank) :
    ∀ fuel, RecOK cs rank fuel (importRecurse cs fuel) := by
  intro fuel
  induction fuel with
  | zero => intro n m S h; omega
  | succ fuel ih =>
    intro n m S hfuel hS hinv
    have hnS : n ∉ S := fun h => Nat.lt_irrefl _ (hS n h)
    unfold importRecurse
    by_cases hseen : (m.visited.contains n || memoHas m.tbl n) = true
    · -- already visited or memoised
      simp only [hseen, if_true]
      by_cases hhas : memoHas m.tbl n = true
      · exact ⟨hinv.fin n hhas hnS, hinv, fun _ _ => rfl, fun _ h => h, rfl⟩
      · have hhas' : memoHas m.tbl n = false := by simpa using hhas
        have hv : n ∈ m.visited := by simpa [hhas'] using hseen
        have hnone := hinv.vis n hv hhas'
        refine ⟨fun x => ?_, hinv, fun _ _ => rfl, fun _ h => h, rfl⟩
        rw [memoGet_of_not_has _ hhas', reach_iff]
        simp [hnone]
    · simp only [hseen, Bool.false_eq_true, if_false]
      have hnew : memoHas m.tbl n = false := by
        cases h : memoHas m.tbl n with
        | false => rfl
        | true => rw [h, Bool.or_true] at hseen; exact absurd rfl hseen
      cases hfind : findCtx cs n with
      | none =>
        simp only
        refine ⟨fun x => ?_, ⟨hinv.fin, ?_⟩, fun _ _ => rfl, fun _ h => h, (memoGet_of_not_has _ hnew).symm⟩
        · rw [reach_iff]; simp [hfind]
        · intro v hv hh
          rcases List.mem_cons.mp hv with rfl | hv
          · exact hfind
          · exact hinv.vis v hv hh
      | some c =>
        simp only
        have hloop := foldl_seen (I := LoopInv cs S n { visited := n :: m.visited, tbl := m.tbl ++ [(n, [])] })
          (fun _ _ h i hi => recStep_ok ih hS (Nat.le_of_lt_succ hfuel) h (hacyc n c hfind i hi))
          ⟨hinv.push n, by simp [memoHas_append], by simp [memoGet_append, hnew], fun _ _ => rfl, fun _ h => h⟩
        have hres : ∀ x, x ∈ memoGet (c.imports.foldl (recStep (importRecurse cs fuel) n)
            { visited := n :: m.visited, tbl := m.tbl ++ [(n, [])] }).tbl n ↔ Reach cs n x := by
          intro x
          rw [hloop.acc x, reach_iff]
          simp only [hfind, Option.some.injEq, exists_eq_left']
        -- leaving the node: its entry is finished
        refine ⟨hres, ⟨fun k hk hkS x => ?_, hloop.inv.vis⟩, fun s hs => ?_, fun k hk => ?_, rfl⟩
        · by_cases hkn : k = n
          · subst hkn; exact hres x
          · exact hloop.inv.fin k hk (by simp [hkn, hkS]) x
        · rw [hloop.frame s hs]
          exact memoGet_append_ne _ _ (fun e => hnS (e ▸ hs))
        · exact hloop.mono k (by simp [memoHas_append, hk])

/-- a root call, as the planner makes them: empty stack, empty `visited`, a table left by earlier root calls -/
theorem importRecurse_root {cs : List Ctx} {rank : Name → Nat} (hacyc : Acyclic cs rank) {fuel : Nat} {n : Name}
    (hfuel : rank n < fuel) {tbl : Tbl} (hinv : MemoInv cs [] { visited := [], tbl := tbl }) :
    (∀ x, x ∈ (importRecurse cs fuel n { visited := [], tbl := tbl }).1 ↔ Reach cs n x) ∧
    MemoInv cs [] { visited := [], tbl := (importRecurse cs fuel n { visited := [], tbl := tbl }).2.tbl } ∧
    ∀ x, x ∈ memoGet (importRecurse cs fuel n { visited := [], tbl := tbl }).2.tbl n ↔ Reach cs n x :=
  have h := importRecurse_ok cs rank hacyc fuel n { visited := [], tbl := tbl } [] hfuel (List.forall_mem_nil _) hinv
  ⟨h.res, ⟨h.inv.fin, List.forall_mem_nil _⟩, h.ret ▸ h.res⟩

end PsModel.C10
