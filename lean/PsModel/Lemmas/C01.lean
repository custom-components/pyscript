import PsModel.Lemmas.C01Scope
set_option linter.unusedSectionVars false
/-!
`eval_eq` … `run_eq`: on the fragment `Conf cfg` the evaluators at `cfg` equal those at any configuration with every flag on
(`AllOn py`), handler by handler, by structural recursion on the syntax.  Where a flag is off the fragment makes the deviating
shape indistinguishable: a constant operand for a swapped evaluation order, a pure one for a repeated evaluation, distinct
explicit keywords for the merge, `compEarlyFree` for the comprehension scope (`loops_restore_fresh`).
-/
namespace PsModel.C01

variable {W : Type}

theorem eq_const_of_isConst {e : Expr} (h : e.isConst = true) : ∃ k, e = .const k := by
  unfold Expr.isConst at h
  split at h
  · exact ⟨_, rfl⟩
  · cases h

theorem eval_const_eq (cfg : Cfg) (P : Prims W) (k : Nat) (σ : Store) (w : W) :
    eval cfg P (.const k) σ w = (.ok (k, σ), w) := rfl

theorem eval_const (cfg : Cfg) (P : Prims W) (e : Expr) (h : e.isConst = true) (σ : Store) (w : W) :
    ∃ k, eval cfg P e σ w = (.ok (k, σ), w) := by
  obtain ⟨k, rfl⟩ := eq_const_of_isConst h
  exact ⟨k, rfl⟩

def purev : Expr → Store → Option Val
  | .const k, _ => some k
  | .name x, σ => σ.get x
  | _, _ => none

theorem eval_pure (cfg : Cfg) (P : Prims W) (e : Expr) (h : e.isPure = true) (σ : Store) (w : W) :
    eval cfg P e σ w = (match purev e σ with
                        | some v => (.ok (v, σ), w)
                        | none => (.error .nameError, w)) := by
  unfold Expr.isPure at h
  split at h
  · rfl
  · rw [eval_name]
    show _ = match σ.get _ with | some v => _ | none => _
    cases σ.get _ <;> rfl
  · cases h

theorem purev_of_eval_ok (cfg : Cfg) (P : Prims W) {e : Expr} (h : e.isPure = true) {σ : Store} {w w' : W} {b : Val × Store}
    (hb : eval cfg P e σ w = (.ok b, w')) : purev e b.2 = some b.1 := by
  rw [eval_pure cfg P e h σ w] at hb
  cases hv : purev e σ with
  | none => rw [hv] at hb; cases hb
  | some v => rw [hv] at hb; cases hb; exact hv

theorem midPure_cons {op : Nat} {e : Expr} {rest : List CmpArm} (hne : rest ≠ []) (h : midPure (.mk op e :: rest) = true) :
    e.isPure = true ∧ midPure rest = true := by
  cases rest with
  | nil => exact absurd rfl hne
  | cons arm r => exact Bool.and_eq_true_iff.1 h

theorem evalPairs_valueFirst (cfg : Cfg) (P : Prims W) (h : cfg.dictKeyFirst = false) (k v : Expr) (r : List DictArm)
    (σ : Store) (w : W) :
    evalPairs cfg P (.kv k v :: r) σ w =
      bind (eval cfg P v σ w) fun b w => bind (eval cfg P k b.2 w) fun a w =>
      bind (evalPairs cfg P r a.2 w) fun ps w => (.ok ((some a.1, b.1) :: ps.1, ps.2), w) :=
  if_neg (h ▸ Bool.false_ne_true)

theorem eval_compare_ast (cfg : Cfg) (P : Prims W) (h : cfg.compareOnce = false) (l : Expr) (op : Nat) (e : Expr)
    (rest : List CmpArm) (σ : Store) (w : W) :
    eval cfg P (.compare l (.mk op e :: rest)) σ w =
      bind (eval cfg P l σ w) fun a w => bind (eval cfg P e a.2 w) fun b w => bind (P.cmp op a.1 b.1 w) fun t w =>
      if t then chainAst cfg P (.mk op e :: rest) b.2 w else (.ok (P.ofBool false, b.2), w) :=
  if_neg (h ▸ Bool.false_ne_true)

theorem eval_call_kwsFirst (cfg : Cfg) (P : Prims W) (h : cfg.callArgsFirst = false) (f : Expr) (args : List Elt) (kws : List Kw)
    (σ : Store) (w : W) :
    eval cfg P (.call f args kws) σ w =
      bind (eval cfg P f σ w) fun fv w => bind (evalKws cfg P [] kws fv.2 w) fun ks w =>
      bind (evalElts cfg P args ks.2 w) fun as w => bind (P.call fv.1 as.1 ks.1 w) fun r w => (.ok (r, as.2), w) :=
  bind_congr rfl fun _ _ => if_neg (h ▸ Bool.false_ne_true)

/-- a handler skips a step (`c`) only while its flag `f` is off, and the fragment excludes `c` for as long: with respect to the
skipping it agrees with any configuration that has the flag on -/
theorem and_not_flag {c f f' : Bool} (hf' : f' = true) (h : (f || !c) = true) : (c && !f) = (c && !f') := by
  subst hf'
  revert h
  cases c <;> cases f <;> decide

def keysOf (acc : List (String × Val)) : List String := acc.map (·.1)

theorem kwMerge_fresh (cfg : Cfg) (acc : List (String × Val)) (k : String) (v : Val) (h : k ∉ keysOf acc) :
    kwMerge cfg acc k v = .ok (acc ++ [(k, v)]) := by
  have hany : acc.any (fun p => p.1 == k) = false := by
    rw [List.any_eq_false]
    intro p hp hk
    apply h
    simp only [keysOf, List.mem_map]
    exact ⟨p, hp, by simpa using hk⟩
  unfold kwMerge
  cases cfg.dupKwCheck
  · simp [kwMergeLast, hany]
  · simp [kwMergeStrict, hany]

theorem kwMerge_flag (cfg py : Cfg) (h : cfg.dupKwCheck = true) (h' : py.dupKwCheck = true)
    (acc : List (String × Val)) (k : String) (v : Val) : kwMerge cfg acc k v = kwMerge py acc k v := by
  simp [kwMerge, h, h']

theorem kwMergeAll_flag (cfg py : Cfg) (h : cfg.dupKwCheck = true) (h' : py.dupKwCheck = true)
    (items : List (String × Val)) : ∀ acc, kwMergeAll cfg acc items = kwMergeAll py acc items := by
  induction items with
  | nil => intro acc; rfl
  | cons hd tl ih =>
    intro acc
    obtain ⟨k, v⟩ := hd
    simp only [kwMergeAll, kwMerge_flag cfg py h h']
    cases kwMerge py acc k v with
    | ok acc' => exact ih acc'
    | error e => rfl

theorem iterM_congr (body body' : Val → Store → W → R W (List Item × Store)) (h : ∀ v σ w, body v σ w = body' v σ w)
    (vals : List Val) (σ : Store) (w : W) : iterM body vals σ w = iterM body' vals σ w := by
  have : body = body' := by funext v σ w; exact h v σ w
  subst this; rfl

theorem genStep_congr (asg asg' : Val → Store → W → R W Store) (conds conds' : Store → W → R W (Bool × Store))
    (inner inner' : Store → W → R W (List Item × Store))
    (ha : ∀ v σ w, asg v σ w = asg' v σ w) (hc : ∀ σ w, conds σ w = conds' σ w) (hi : ∀ σ w, inner σ w = inner' σ w)
    (vals : List Val) (σ : Store) (w : W) :
    genStep asg conds inner vals σ w = genStep asg' conds' inner' vals σ w :=
  iterM_congr _ _ (fun v σ w => bind_congr (ha v σ w) fun σ1 w => bind_congr (hc σ1 w) fun c w =>
    ite_congr rfl (fun _ => hi c.2 w) fun _ => rfl) vals σ w

def constElts : List Elt → List Val
  | [] => []
  | .plain (.const k) :: r => k :: constElts r
  | _ :: r => constElts r

theorem evalElts_const (c : Cfg) (P : Prims W) (es : List Elt) (h : es.all Elt.isConst = true) (σ : Store) (w : W) :
    evalElts c P es σ w = (.ok (constElts es, σ), w) := by
  induction es with
  | nil => rfl
  | cons e r ih =>
    obtain ⟨h1, h2⟩ := Bool.and_eq_true_iff.1 h
    cases e with
    | star e => cases h1
    | plain e =>
      obtain ⟨k, rfl⟩ := eq_const_of_isConst h1
      show bind (evalElts c P r σ w) _ = _
      rw [ih h2]
      rfl

def constKws : List Kw → List (String × Val)
  | [] => []
  | .named n (.const k) :: r => (n, k) :: constKws r
  | _ :: r => constKws r

def kwNames : List Kw → List String
  | [] => []
  | .named n _ :: r => n :: kwNames r
  | .splat _ :: r => kwNames r

theorem any_key_of_mem_kwNames {n : String} {ks : List Kw} (h : n ∈ kwNames ks) :
    ks.any (fun k => k.key == some n) = true := by
  induction ks with
  | nil => cases h
  | cons k r ih =>
    rw [List.any_cons, Bool.or_eq_true]
    cases k with
    | named m e =>
      rcases List.mem_cons.1 h with rfl | h
      · exact Or.inl (by simp [Kw.key])
      · exact Or.inr (ih h)
    | splat e => exact Or.inr (ih h)

theorem kwDistinct_cons_named (n : String) (e : Expr) (ks : List Kw) (h : kwDistinct (.named n e :: ks) = true) :
    n ∉ kwNames ks ∧ kwDistinct ks = true := by
  have h := Bool.and_eq_true_iff.1 h
  have h1 : (!ks.any fun k' => k'.key == some n) = true := h.1
  refine ⟨fun hm => ?_, h.2⟩
  rw [any_key_of_mem_kwNames hm] at h1
  cases h1

theorem fresh_append {acc : List (String × Val)} {k : String} {e : Expr} {ks : List Kw}
    (hf : ∀ n ∈ kwNames (.named k e :: ks), n ∉ keysOf acc) (hnk : k ∉ kwNames ks) (v : Val) :
    ∀ n ∈ kwNames ks, n ∉ keysOf (acc ++ [(k, v)]) := by
  intro m hm
  simp only [keysOf, List.map_append, List.map_cons, List.map_nil, List.mem_append, List.mem_singleton, not_or]
  exact ⟨hf m (List.mem_cons_of_mem _ hm), fun hmn => hnk (hmn ▸ hm)⟩

theorem evalKws_const (c : Cfg) (P : Prims W) (ks : List Kw) (h : ks.all Kw.isConst = true) (hd : kwDistinct ks = true)
    (acc : List (String × Val)) (hacc : ∀ n ∈ kwNames ks, n ∉ keysOf acc) (σ : Store) (w : W) :
    evalKws c P acc ks σ w = (.ok (acc ++ constKws ks, σ), w) := by
  induction ks generalizing acc with
  | nil =>
    show (Except.ok (acc, σ), w) = (Except.ok (acc ++ [], σ), w)
    rw [List.append_nil]
  | cons k r ih =>
    obtain ⟨h1, h⟩ := Bool.and_eq_true_iff.1 h
    cases k with
    | splat e => cases h1
    | named n e =>
      obtain ⟨kv, rfl⟩ := eq_const_of_isConst h1
      obtain ⟨hn, hd'⟩ := kwDistinct_cons_named n _ r hd
      show (match kwMerge c acc n kv with | .ok acc' => evalKws c P acc' r σ w | .error ex => _) = _
      rw [kwMerge_fresh c acc n kv (hacc n List.mem_cons_self)]
      show evalKws c P (acc ++ [(n, kv)]) r σ w = _
      rw [ih h hd' _ (fresh_append hacc hn kv), List.append_assoc]
      rfl

section agree
variable (cfg : Cfg) (P : Prims W) (py : Cfg) (hp : AllOn py)
include hp

/-- hypothesis under which keyword merging agrees: either the duplicate check is in place, or all keywords are
explicit, pairwise distinct and not yet present -/
def KwOk (acc : List (String × Val)) (ks : List Kw) : Prop :=
  (cfg.dupKwCheck = true ∧ cfg.kwGroupMerge = true) ∨ (ks.all Kw.isNamed = true ∧ kwDistinct ks = true ∧ ∀ n ∈ kwNames ks, n ∉ keysOf acc)

/-- a comprehension agrees with the reference when its clauses do; with `compFresh` off, on `compEarlyFree` -/
theorem compWith_eq {item item' : Store → W → R W (List Item × Store)} (mk : List Item → W → R W Val) {t : Target} {it : Expr}
    {ifs : List Expr} {gs : List Gen}
    (hit : ∀ σ w, eval cfg P it σ w = eval py P it σ w)
    (ht : ∀ v σ w, assign cfg P t v σ w = assign py P t v σ w)
    (hifs : ∀ σ w, evalConds cfg P ifs σ w = evalConds py P ifs σ w)
    (hgs : ∀ σ w, compGens cfg P item gs σ w = compGens py P item' gs σ w)
    (hfr : cfg.compFresh = true ∨ compEarlyFree (.mk t it ifs :: gs) = true) (σ : Store) (w : W) :
    compWith cfg P item mk t it ifs gs σ w = compWith py P item' mk t it ifs gs σ w := by
  rw [compWith_fresh py P hp.compFresh]
  unfold compWith
  refine bind_congr (hit σ w) fun a w => bind_congr rfl fun vals w => ?_
  rw [genStep_congr _ (fun v σ w => assign py P t v σ w) _ (fun σ w => evalConds py P ifs σ w) _
    (fun σ w => compGens py P item' gs σ w) ht hifs hgs]
  cases hc : cfg.compFresh with
  | true => rfl
  | false =>
    simp only [hc, Bool.false_eq_true, false_or] at hfr
    simp only [Bool.false_eq_true, if_false]
    exact (loops_restore_fresh P py hp t ifs gs _ hfr mk vals a.2 σ w).symm

mutual
theorem eval_eq : ∀ (e : Expr) (σ : Store) (w : W), Conf cfg e = true → eval cfg P e σ w = eval py P e σ w
  | .const _, _, _, _ => rfl
  | .leaf _, _, _, _ => rfl
  | .name _, _, _, _ => rfl
  | .binop op l r, σ, w, h =>
    have h := Bool.and_eq_true_iff.1 h
    bind_congr (eval_eq l σ w h.1) fun a w => bind_congr (eval_eq r a.2 w h.2) fun _ _ => rfl
  | .unary op e, σ, w, h =>
    have h := Bool.and_eq_true_iff.1 h
    bind_congr (eval_eq e σ w h.1) fun a w => ite_congr rfl (fun _ => rfl) fun _ => by
      rw [and_not_flag (c := decide (op = 3)) hp.uaddApplies h.2]
  | .boolop isAnd es, σ, w, h => evalBool_eq isAnd _ es σ w h
  | .compare l rest, σ, w, h => by
    -- stating the shape lets `Conf` unfold by unification; `simp only [Conf]` would first prove the equations of the whole block
    have h : (_ && _ && _ && _) = true := h
    simp only [Bool.and_eq_true, Bool.or_eq_true] at h
    obtain ⟨⟨⟨hl, hr⟩, hm⟩, hne⟩ := h
    rw [eval_compare_once py P hp.compareOnce]
    cases hc : cfg.compareOnce with
    | true =>
      rw [eval_compare_once cfg P hc]
      exact bind_congr (eval_eq l σ w hl) fun a w => chainOnce_eq a.1 _ a.2 w hr
    | false =>
      simp only [hc, Bool.false_eq_true, false_or] at hm
      cases rest with
      | nil => simp at hne
      | cons arm rest' =>
        obtain ⟨op, e⟩ := arm
        have hr := Bool.and_eq_true_iff.1 hr
        rw [eval_compare_ast cfg P hc]
        refine bind_congr (eval_eq l σ w hl) fun a w => ?_
        rw [eval_eq e a.2 w hr.1]
        -- the value carried by Python's chain is the one the code gets by evaluating the (pure) operand again
        exact bind_congr_ok fun b _ hb => bind_congr rfl fun _ w => ite_congr rfl
          (fun _ => chainAst_eq op e rest' b.2 w b.1 hr.2 hm fun hn =>
            ⟨(midPure_cons hn hm).1, purev_of_eval_ok py P (midPure_cons hn hm).1 hb⟩)
          (fun _ => rfl)
  | .ifexp c t e, σ, w, h =>
    have h := Bool.and_eq_true_iff.1 h
    have h1 := Bool.and_eq_true_iff.1 h.1
    bind_congr (eval_eq c σ w h1.1) fun a w => ite_congr rfl (fun _ => eval_eq t a.2 w h1.2) (fun _ => eval_eq e a.2 w h.2)
  | .subscript v i, σ, w, h =>
    have h := Bool.and_eq_true_iff.1 h
    bind_congr (eval_eq v σ w h.1) fun a w => bind_congr (eval_eq i a.2 w h.2) fun _ _ => rfl
  | .slice lo hi st, σ, w, h =>
    have h := Bool.and_eq_true_iff.1 h
    have h1 := Bool.and_eq_true_iff.1 h.1
    bind_congr (evalOpt_eq lo σ w h1.1) fun a w => bind_congr (evalOpt_eq hi a.2 w h1.2) fun b w =>
      bind_congr (evalOpt_eq st b.2 w h.2) fun _ _ => rfl
  | .attr v a, σ, w, h => bind_congr (eval_eq v σ w h) fun _ _ => rfl
  | .call f args kws, σ, w, h => by
    have h : (_ && _ && _ && _ && _ && _) = true := h
    simp only [Bool.and_eq_true, Bool.or_eq_true] at h
    obtain ⟨⟨⟨⟨⟨hf, ha⟩, hk⟩, hd⟩, hord⟩, hdup⟩ := h
    have hkw : KwOk cfg [] kws := hdup.imp_right fun hn => ⟨hn, hd, fun _ _ => List.not_mem_nil⟩
    rw [eval_call_argsFirst py P hp.callArgsFirst]
    cases hc : cfg.callArgsFirst with
    | true =>
      rw [eval_call_argsFirst cfg P hc]
      exact bind_congr (eval_eq f σ w hf) fun fv w => bind_congr (evalElts_eq args fv.2 w ha) fun as w =>
        bind_congr (evalKws_eq [] kws as.2 w hk hkw) fun _ _ => rfl
    | false =>
      -- keywords first: indistinguishable when the positional arguments or the keyword values are constants
      simp only [hc, Bool.false_eq_true, false_or] at hord
      rw [eval_call_kwsFirst cfg P hc]
      refine bind_congr (eval_eq f σ w hf) fun fv w => ?_
      rcases hord with hac | hkc
      · simp only [evalElts_const _ P args hac, bind_ok]
        rw [evalKws_eq [] kws fv.2 w hk hkw]
      · simp only [evalKws_const _ P kws hkc hd [] (fun _ _ => List.not_mem_nil), bind_ok]
        rw [evalElts_eq args fv.2 w ha]
  | .seq kind es, σ, w, h => bind_congr (evalElts_eq es σ w h) fun _ _ => rfl
  | .dict kvs, σ, w, h => bind_congr (evalPairs_eq kvs σ w h) fun _ _ => rfl
  | .fstr parts, σ, w, h => bind_congr (evalParts_eq parts σ w h) fun _ _ => rfl
  | .named x e, σ, w, h => bind_congr (eval_eq e σ w h) fun _ _ => rfl
  | .comp _ _ [], σ, w, h => by cases (Bool.and_eq_true_iff.1 (Bool.and_eq_true_iff.1 h).1).2
  | .comp isSet elt (.mk t it ifs :: gs), σ, w, h => by
    have h : (_ && (_ && _ && _ && _) && _ && _) = true := h
    simp only [Bool.and_eq_true, Bool.or_eq_true] at h
    obtain ⟨⟨⟨he, ⟨⟨⟨ht, hit⟩, hifs⟩, hgs⟩⟩, _⟩, hfr⟩ := h
    rw [eval_comp, eval_comp]
    exact compWith_eq cfg P py hp _ (fun σ w => eval_eq it σ w hit) (fun v σ w => assign_eq t v σ w ht)
      (fun σ w => evalConds_eq ifs σ w hifs)
      (fun σ w => compGens_eq gs _ _ σ w hgs fun σ w => bind_congr (eval_eq elt σ w he) fun _ _ => rfl) hfr σ w
  | .dictcomp _ _ [], σ, w, h => by cases (Bool.and_eq_true_iff.1 (Bool.and_eq_true_iff.1 h).1).2
  | .dictcomp k v (.mk t it ifs :: gs), σ, w, h => by
    have h : (_ && _ && (_ && _ && _ && _) && _ && _) = true := h
    simp only [Bool.and_eq_true, Bool.or_eq_true] at h
    obtain ⟨⟨⟨⟨hk, hv⟩, ⟨⟨⟨ht, hit⟩, hifs⟩, hgs⟩⟩, _⟩, hfr⟩ := h
    rw [eval_dictcomp, eval_dictcomp]
    exact compWith_eq cfg P py hp _ (fun σ w => eval_eq it σ w hit) (fun v σ w => assign_eq t v σ w ht)
      (fun σ w => evalConds_eq ifs σ w hifs)
      (fun σ w => compGens_eq gs _ _ σ w hgs fun σ w =>
        bind_congr (eval_eq k σ w hk) fun kv w => bind_congr (eval_eq v kv.2 w hv) fun _ _ => rfl) hfr σ w

theorem evalConds_eq : ∀ (cs : List Expr) (σ : Store) (w : W), ConfList cfg cs = true →
    evalConds cfg P cs σ w = evalConds py P cs σ w
  | [], _, _, _ => rfl
  | c :: cs, σ, w, h =>
    have h := Bool.and_eq_true_iff.1 h
    bind_congr (eval_eq c σ w h.1) fun a w => ite_congr rfl (fun _ => evalConds_eq cs a.2 w h.2) (fun _ => rfl)

theorem compGens_eq : ∀ (gs : List Gen) (item item' : Store → W → R W (List Item × Store)) (σ : Store) (w : W),
    ConfGens cfg gs = true → (∀ σ w, item σ w = item' σ w) →
    compGens cfg P item gs σ w = compGens py P item' gs σ w
  | [], _, _, σ, w, _, hi => hi σ w
  | .mk t it ifs :: gs, item, item', σ, w, h, hi =>
    have h := Bool.and_eq_true_iff.1 h
    have h1 := Bool.and_eq_true_iff.1 h.1
    have h2 := Bool.and_eq_true_iff.1 h1.1
    bind_congr (eval_eq it σ w h2.2) fun a _ => bind_congr rfl fun vals w =>
      genStep_congr _ _ _ _ _ _ (fun v σ w => assign_eq t v σ w h2.1) (fun σ w => evalConds_eq ifs σ w h1.2)
        (fun σ w => compGens_eq gs item item' σ w h.2 hi) vals a.2 w

theorem evalOpt_eq : ∀ (o : Option Expr) (σ : Store) (w : W), ConfOpt cfg o = true →
    evalOpt cfg P o σ w = evalOpt py P o σ w
  | none, _, _, _ => rfl
  | some e, σ, w, h => bind_congr (eval_eq e σ w h) fun _ _ => rfl

theorem evalBool_eq (isAnd : Bool) : ∀ (last : Val) (es : List Expr) (σ : Store) (w : W), ConfList cfg es = true →
    evalBool cfg P isAnd last es σ w = evalBool py P isAnd last es σ w
  | _, [], _, _, _ => rfl
  | _, e :: es, σ, w, h =>
    have h := Bool.and_eq_true_iff.1 h
    bind_congr (eval_eq e σ w h.1) fun a w => ite_congr rfl (fun _ => evalBool_eq isAnd a.1 es a.2 w h.2) (fun _ => rfl)

theorem chainOnce_eq : ∀ (left : Val) (rest : List CmpArm) (σ : Store) (w : W), ConfArms cfg rest = true →
    chainOnce cfg P left rest σ w = chainOnce py P left rest σ w
  | _, [], _, _, _ => rfl
  | _, .mk _ e :: rest, σ, w, h =>
    have h := Bool.and_eq_true_iff.1 h
    bind_congr (eval_eq e σ w h.1) fun b _ => bind_congr rfl fun _ w =>
      ite_congr rfl (fun _ => chainOnce_eq b.1 rest b.2 w h.2) (fun _ => rfl)

/-- after an arm whose (pure, when more arms follow) right operand has value `v` in `σ`, the code's re-evaluating
loop continues exactly like Python's carried-value chain -/
theorem chainAst_eq : ∀ (op : Nat) (e : Expr) (rest : List CmpArm) (σ : Store) (w : W) (v : Val),
    ConfArms cfg rest = true → midPure (.mk op e :: rest) = true →
    (rest ≠ [] → e.isPure = true ∧ purev e σ = some v) →
    chainAst cfg P (.mk op e :: rest) σ w = chainOnce py P v rest σ w
  | _, _, [], _, _, _, _, _, _ => rfl
  | op, e, .mk op2 e2 :: rest, σ, w, v, hr, hm, hv => by
    obtain ⟨hp1, hval⟩ := hv (List.cons_ne_nil _ _)
    have hr := Bool.and_eq_true_iff.1 hr
    have hm2 := (midPure_cons (List.cons_ne_nil _ _) hm).2
    show bind (eval cfg P e σ w) _ = _
    rw [eval_pure cfg P e hp1 σ w, hval, bind_ok, eval_eq e2 σ w hr.1]
    exact bind_congr_ok fun b _ hb => bind_congr rfl fun _ w => ite_congr rfl
      (fun _ => chainAst_eq op2 e2 rest b.2 w b.1 hr.2 hm2 fun hn =>
        ⟨(midPure_cons hn hm2).1, purev_of_eval_ok py P (midPure_cons hn hm2).1 hb⟩)
      (fun _ => rfl)
termination_by structural _ _ rest => rest

theorem evalElts_eq : ∀ (es : List Elt) (σ : Store) (w : W), ConfElts cfg es = true →
    evalElts cfg P es σ w = evalElts py P es σ w
  | [], _, _, _ => rfl
  | .plain e :: es, σ, w, h =>
    have h := Bool.and_eq_true_iff.1 h
    bind_congr (eval_eq e σ w h.1) fun a w => bind_congr (evalElts_eq es a.2 w h.2) fun _ _ => rfl
  | .star e :: es, σ, w, h =>
    have h := Bool.and_eq_true_iff.1 h
    bind_congr (eval_eq e σ w h.1) fun a _ => bind_congr rfl fun _ w =>
      bind_congr (evalElts_eq es a.2 w h.2) fun _ _ => rfl

theorem evalKws_eq : ∀ (acc : List (String × Val)) (ks : List Kw) (σ : Store) (w : W), ConfKws cfg ks = true →
    KwOk cfg acc ks → evalKws cfg P acc ks σ w = evalKws py P acc ks σ w
  | _, [], _, _, _, _ => rfl
  | acc, .named k e :: ks, σ, w, h, hok => by
    have h := Bool.and_eq_true_iff.1 h
    refine bind_congr (eval_eq e σ w h.1) fun a w => ?_
    rcases hok with hd1 | ⟨hn, hd, hf⟩
    · rw [kwMerge_flag cfg py hd1.1 hp.dupKwCheck]
      cases kwMerge py acc k a.1 with
      | error ex =>
        simp only [hd1.2, hp.kwGroupMerge, if_true]
        exact drainGroup_eq ex ks a.2 w h.2
      | ok acc' => exact evalKws_eq acc' ks a.2 w h.2 (Or.inl hd1)
    · obtain ⟨hnk, hd'⟩ := kwDistinct_cons_named k e ks hd
      have hfresh : k ∉ keysOf acc := hf k List.mem_cons_self
      rw [kwMerge_fresh cfg acc k a.1 hfresh, kwMerge_fresh py acc k a.1 hfresh]
      exact evalKws_eq (acc ++ [(k, a.1)]) ks a.2 w h.2
        (Or.inr ⟨(Bool.and_eq_true_iff.1 hn).2, hd', fresh_append hf hnk a.1⟩)
  | acc, .splat e :: ks, σ, w, h, hok => by
    have h := Bool.and_eq_true_iff.1 h
    refine bind_congr (eval_eq e σ w h.1) fun a w => bind_congr rfl fun items w => ?_
    rcases hok with hd1 | ⟨hn, _, _⟩
    · rw [kwMergeAll_flag cfg py hd1.1 hp.dupKwCheck]
      cases kwMergeAll py acc items with
      | error ex => rfl
      | ok acc' => exact evalKws_eq acc' ks a.2 w h.2 (Or.inl hd1)
    · simp [Kw.isNamed] at hn

theorem drainGroup_eq : ∀ (ex : Exc) (ks : List Kw) (σ : Store) (w : W), ConfKws cfg ks = true →
    drainGroup cfg P ex ks σ w = drainGroup py P ex ks σ w
  | _, [], _, _, _ => rfl
  | ex, .named _ e :: ks, σ, w, h =>
    have h := Bool.and_eq_true_iff.1 h
    bind_congr (eval_eq e σ w h.1) fun a w => drainGroup_eq ex ks a.2 w h.2
  | _, .splat _ :: _, _, _, _ => rfl

theorem evalPairs_eq : ∀ (kvs : List DictArm) (σ : Store) (w : W), ConfPairs cfg kvs = true →
    evalPairs cfg P kvs σ w = evalPairs py P kvs σ w
  | [], _, _, _ => rfl
  | .kv k v :: r, σ, w, h => by
    have h : (_ && _ && _ && _) = true := h
    simp only [Bool.and_eq_true, Bool.or_eq_true] at h
    obtain ⟨⟨⟨hk, hv⟩, hord⟩, hr⟩ := h
    rw [evalPairs_keyFirst py P hp.dictKeyFirst]
    cases hc : cfg.dictKeyFirst with
    | true =>
      rw [evalPairs_keyFirst cfg P hc]
      exact bind_congr (eval_eq k σ w hk) fun a w => bind_congr (eval_eq v a.2 w hv) fun b w =>
        bind_congr (evalPairs_eq r b.2 w hr) fun _ _ => rfl
    | false =>
      -- value first: indistinguishable when the key or the value is a constant
      rw [evalPairs_valueFirst cfg P hc]
      rcases hord with (hc' | hkc) | hvc
      · rw [hc] at hc'; cases hc'
      · obtain ⟨c, rfl⟩ := eq_const_of_isConst hkc
        simp only [eval_const_eq, bind_ok]
        exact bind_congr (eval_eq v σ w hv) fun b w => bind_congr (evalPairs_eq r b.2 w hr) fun _ _ => rfl
      · obtain ⟨c, rfl⟩ := eq_const_of_isConst hvc
        simp only [eval_const_eq, bind_ok]
        exact bind_congr (eval_eq k σ w hk) fun a w => bind_congr (evalPairs_eq r a.2 w hr) fun _ _ => rfl
  | .splat e :: r, σ, w, h =>
    have h := Bool.and_eq_true_iff.1 h
    bind_congr (eval_eq e σ w h.1) fun a w => bind_congr (evalPairs_eq r a.2 w h.2) fun _ _ => rfl

theorem evalParts_eq : ∀ (ps : List FPart) (σ : Store) (w : W), ConfParts cfg ps = true →
    evalParts cfg P ps σ w = evalParts py P ps σ w
  | [], _, _, _ => rfl
  | .lit k :: r, σ, w, h => bind_congr (evalParts_eq r σ w h) fun _ _ => rfl
  | .fmt e conv spec :: r, σ, w, h => by
    have h : (_ && _ && _ && _) = true := h
    simp only [Bool.and_eq_true, Bool.or_eq_true] at h
    obtain ⟨⟨⟨he, hs⟩, hcv⟩, hr⟩ := h
    have hconv : (if cfg.fstrConversion then conv else none) = if py.fstrConversion then conv else none := by
      rw [hp.fstrConversion]
      rcases hcv with h1 | h2
      · rw [h1]
      · cases conv with
        | none => exact ite_self _
        | some c => cases h2
    exact bind_congr (eval_eq e σ w he) fun a w => bind_congr (evalOpt_eq spec a.2 w hs) fun s w =>
      bind_congr (congrArg (fun c => P.format a.1 c s.1 w) hconv) fun v w =>
      bind_congr (evalParts_eq r s.2 w hr) fun _ _ => rfl

theorem assign_eq : ∀ (t : Target) (v : Val) (σ : Store) (w : W), ConfT cfg t = true →
    assign cfg P t v σ w = assign py P t v σ w
  | .name _, _, _, _, _ => rfl
  | .sub e i, v, σ, w, h =>
    have h := Bool.and_eq_true_iff.1 h
    bind_congr (eval_eq e σ w h.1) fun a w => bind_congr (eval_eq i a.2 w h.2) fun _ _ => rfl
  | .attr e a, v, σ, w, h => bind_congr (eval_eq e σ w h) fun _ _ => rfl
  | .tup isList before star after, v, σ, w, h => by
    obtain ⟨hlb, ha⟩ := Bool.and_eq_true_iff.1 h
    obtain ⟨hl, hb⟩ := Bool.and_eq_true_iff.1 hlb
    rw [assign_tup, assign_tup, and_not_flag hp.listTarget hl]
    exact ite_congr rfl (fun _ => rfl) fun _ => bind_congr rfl fun vals w =>
      unpack_congr (fun vs σ w => assignList_eq before vs σ w hb) (fun vs σ w => assignList_eq after vs σ w ha) _ _ _ star vals σ w
theorem assignList_eq : ∀ (ts : List Target) (vs : List Val) (σ : Store) (w : W), ConfTs cfg ts = true →
    assignList cfg P ts vs σ w = assignList py P ts vs σ w
  | [], _, _, _, _ => rfl
  | _ :: _, [], _, _, _ => rfl
  | t :: ts, v :: vs, σ, w, h =>
    have h := Bool.and_eq_true_iff.1 h
    bind_congr (assign_eq t v σ w h.1) fun σ1 w => assignList_eq ts vs σ1 w h.2
end

theorem assignAll_eq (v : Val) (ts : List Target) (σ : Store) (w : W) (h : ConfTs cfg ts = true) :
    assignAll cfg P v ts σ w = assignAll py P v ts σ w := by
  induction ts generalizing σ w with
  | nil => rfl
  | cons t ts ih =>
    have h := Bool.and_eq_true_iff.1 h
    exact bind_congr (assign_eq cfg P py hp t v σ w h.1) fun σ1 w => ih σ1 w h.2

mutual
theorem delete1_eq : ∀ (t : Target) (σ : Store) (w : W), ConfT cfg t = true →
    delete1 cfg P t σ w = delete1 py P t σ w
  | .name _, _, _, _ => rfl
  | .sub v i, σ, w, h =>
    have h := Bool.and_eq_true_iff.1 h
    bind_congr (eval_eq cfg P py hp v σ w h.1) fun a w => bind_congr (eval_eq cfg P py hp i a.2 w h.2) fun _ _ => rfl
  | .attr _ _, _, _, _ => rfl
  | .tup _ _ (some _) _, _, _, _ => rfl
  | .tup _ before none after, σ, w, h =>
    have h := Bool.and_eq_true_iff.1 h
    have h1 := Bool.and_eq_true_iff.1 h.1
    bind_congr (deleteAll_eq before σ w h1.2) fun σ1 w => deleteAll_eq after σ1 w h.2
theorem deleteAll_eq : ∀ (ts : List Target) (σ : Store) (w : W), ConfTs cfg ts = true →
    deleteAll cfg P ts σ w = deleteAll py P ts σ w
  | [], _, _, _ => rfl
  | t :: ts, σ, w, h =>
    have h := Bool.and_eq_true_iff.1 h
    bind_congr (delete1_eq t σ w h.1) fun σ1 w => deleteAll_eq ts σ1 w h.2
end

theorem applyAug_eq (hi : cfg.augInPlace = true ∨ NoInPlace P) (op : Nat) (a b : Val) (w : W) :
    applyAug cfg P op a b w = applyAug py P op a b w := by
  simp only [applyAug, hp.augInPlace, if_true]
  rcases hi with h | h
  · simp [h]
  · cases cfg.augInPlace
    · simp [h op a b w]
    · simp

omit hp in
/-- for a plain name the two shapes of `ast_augassign` coincide: a name has no sub-expression to evaluate twice -/
theorem augAssign_name (x : String) (op : Nat) (e : Expr) (σ : Store) (w : W) :
    augAssign cfg P (.name x) op e σ w =
      match σ.get x with
      | none => (.error .nameError, w)
      | some a => bind (eval cfg P e σ w) fun b w => bind (applyAug cfg P op a b.1 w) fun r w => (.ok (b.2.set x r), w) := by
  unfold augAssign
  cases cfg.augTargetOnce with
  | true => rfl
  | false =>
    show bind (eval cfg P (.name x) σ w) _ = _
    rw [eval_name]
    cases σ.get x <;> rfl

theorem augAssign_eq (hi : cfg.augInPlace = true ∨ NoInPlace P) (t : Target) (op : Nat) (e : Expr) (σ : Store) (w : W)
    (ht : ConfT cfg t = true) (he : Conf cfg e = true) (hn : cfg.augTargetOnce = true ∨ t.isName = true)
    (hnt : t.notTup = true) :
    augAssign cfg P t op e σ w = augAssign py P t op e σ w := by
  cases t with
  | name x =>
    rw [augAssign_name, augAssign_name]
    cases σ.get x with
    | none => rfl
    | some a =>
      exact bind_congr (eval_eq cfg P py hp e σ w he) fun b w =>
        bind_congr (applyAug_eq cfg P py hp hi op a b.1 w) fun _ _ => rfl
  | sub v i =>
    have ht := Bool.and_eq_true_iff.1 ht
    unfold augAssign
    rw [if_pos (hn.resolve_right Bool.false_ne_true), if_pos hp.augTargetOnce]
    exact bind_congr (eval_eq cfg P py hp v σ w ht.1) fun c w =>
      bind_congr (eval_eq cfg P py hp i c.2 w ht.2) fun k w => bind_congr rfl fun a w =>
      bind_congr (eval_eq cfg P py hp e k.2 w he) fun b w =>
      bind_congr (applyAug_eq cfg P py hp hi op a b.1 w) fun _ _ => rfl
  | attr v a =>
    unfold augAssign
    rw [if_pos (hn.resolve_right Bool.false_ne_true), if_pos hp.augTargetOnce]
    exact bind_congr (eval_eq cfg P py hp v σ w ht) fun c w => bind_congr rfl fun a w =>
      bind_congr (eval_eq cfg P py hp e c.2 w he) fun b w =>
      bind_congr (applyAug_eq cfg P py hp hi op a b.1 w) fun _ _ => rfl
  | tup l b s a => exact absurd hnt Bool.false_ne_true

theorem exec_eq (hi : cfg.augInPlace = true ∨ NoInPlace P) (s : Stmt) (σ : Store) (w : W) (h : ConfS cfg s = true) :
    exec cfg P s σ w = exec py P s σ w := by
  cases s with
  | expr e => exact bind_congr (eval_eq cfg P py hp e σ w h) fun _ _ => rfl
  | assign ts e =>
    have h := Bool.and_eq_true_iff.1 h
    exact bind_congr (eval_eq cfg P py hp e σ w h.2) fun a w => assignAll_eq cfg P py hp a.1 ts a.2 w h.1
  | aug t op e =>
    simp only [ConfS, Bool.and_eq_true, Bool.or_eq_true] at h
    exact augAssign_eq cfg P py hp hi t op e σ w h.1.1.1 h.1.1.2 h.1.2 h.2
  | del ts => exact deleteAll_eq cfg P py hp ts σ w h

theorem run_eq (hi : cfg.augInPlace = true ∨ NoInPlace P) (p : List Stmt) (σ : Store) (w : W) (h : ConfProg cfg p = true) :
    run cfg P p σ w = run py P p σ w := by
  induction p generalizing σ w with
  | nil => rfl
  | cons s ss ih =>
    have h := Bool.and_eq_true_iff.1 h
    exact bind_congr (exec_eq cfg P py hp hi s σ w h.1) fun σ1 w => ih σ1 w h.2

end agree

end PsModel.C01
