import PsModel.Lemmas.C11Sim
/-!
# C11 lemmas – frame: a context nobody holds a reference to is neither read nor written

Stated on the lexical reference: every primitive commutes with replacing the table of `B` (`swap`) and keeps `B`
unreferenced (`SFree`).  Together with the `abs_*` equations that makes `abs` followed by the replacement a reading of
the model state of the kind `simAll` is about (`view_swap`), which carries the property through the evaluator.
-/
namespace PsModel.C11

def mentions : Val → Nat → Bool
  | .fn c _, B => c == B
  | .mod c, B => c == B
  | _, _ => false

theorem mentions_mod {c B : Nat} : mentions (.mod c) B = false ↔ c ≠ B := by simp [mentions]

theorem mentions_fn {c fid B : Nat} : mentions (.fn c fid) B = false ↔ c ≠ B := by simp [mentions]

def TFree (B : Nat) (t : Table) : Prop := ∀ kv ∈ t, mentions kv.2 B = false

def VsFree (B : Nat) (vs : List Val) : Prop := ∀ v ∈ vs, mentions v B = false

namespace TFree

theorem nil (B : Nat) : TFree B [] := by intro kv h; cases h

theorem set_ {B : Nat} {t : Table} (ht : TFree B t) (x : String) {v : Val} (hv : mentions v B = false) :
    TFree B (tset t x v) := by
  induction t with
  | nil => intro kv h; simp only [tset, List.mem_singleton] at h; subst h; exact hv
  | cons yw r ih =>
    obtain ⟨y, w⟩ := yw
    simp only [tset]
    split
    · intro kv h
      simp only [List.mem_cons] at h
      rcases h with rfl | h
      · exact hv
      · exact ht kv (List.mem_cons_of_mem _ h)
    · intro kv h
      simp only [List.mem_cons] at h
      rcases h with rfl | h
      · exact ht _ List.mem_cons_self
      · exact ih (fun kv hk => ht kv (List.mem_cons_of_mem _ hk)) kv h

theorem get_ {B : Nat} {t : Table} (ht : TFree B t) {x : String} {v : Val} (h : tget t x = some v) :
    mentions v B = false := ht (x, v) (lookup_mem h)

end TFree

theorem bindArgs_free {B : Nat} {ps : List String} : ∀ {vs : List Val} {t : Table}, VsFree B vs → bindArgs ps vs = some t →
    TFree B t := by
  induction ps with
  | nil =>
    intro vs t _ h
    cases vs with
    | nil => simp only [bindArgs, Option.some.injEq] at h; subst h; exact TFree.nil B
    | cons v r => simp [bindArgs] at h
  | cons x xs ih =>
    intro vs t hv h
    cases vs with
    | nil => simp [bindArgs] at h
    | cons v r =>
      simp only [bindArgs] at h
      cases hb : bindArgs xs r with
      | none => rw [hb] at h; cases h
      | some t0 =>
        rw [hb] at h
        simp only [Option.some.injEq] at h
        subst h
        exact (ih (fun w hw => hv w (List.mem_cons_of_mem _ hw)) hb).set_ x (hv v List.mem_cons_self)

/-- `lt`: `B` exists, so a context created by a load is never `B`; `nomod`: `B` carries no module object, so an import
never finds it (`importLookup … = .found B` is impossible) -/
structure HFree (B : Nat) (h : Heap) : Prop where
  lt : B < h.ctxs.length
  nomod : hasModuleAt h B = false
  tabs : ∀ c, c ≠ B → TFree B (h.tab c)

/-- only the current local table is asked about: the tables saved on `sym_table_stack` are out of reach of a block, which
never pops below the level it was started on -/
structure SFree (B : Nat) (s : PSt) : Prop where
  h : HFree B s.h
  g : s.env.g ≠ B
  loc : ∀ t, s.env.locals = some t → TFree B t

def swap (B : Nat) (t' : Table) (s : PSt) : PSt := { s with h := s.h.setTab B t' }

theorem tab_setTab_ne {h : Heap} {B c : Nat} (t' : Table) (hc : c ≠ B) : (h.setTab B t').tab c = h.tab c := by
  simp [Heap.tab, Heap.setTab, hc]

theorem tab_setTab_same (h : Heap) (B : Nat) (t : Table) : (h.setTab B t).tab B = t := by
  simp only [Heap.tab, Heap.setTab, if_true]

theorem setTab_tab (h : Heap) (B : Nat) : h.setTab B (h.tab B) = h := by
  cases h with
  | mk ctxs tabs reg nset loads =>
    simp only [Heap.setTab, Heap.tab]
    congr 1
    funext c
    split
    · rename_i e; rw [e]
    · rfl

theorem setKey_swap {h : Heap} {B c : Nat} (t' : Table) (hc : c ≠ B) (x : String) (v : Val) :
    (h.setTab B t').setKey c x v = (h.setKey c x v).setTab B t' := by
  unfold Heap.setKey
  rw [tab_setTab_ne t' hc]
  unfold Heap.setTab
  simp only
  congr 1
  funext c'
  by_cases h1 : c' = c
  · subst h1; simp [hc]
  · simp [h1]

theorem HFree.set_key {B : Nat} {h : Heap} (hf : HFree B h) {c : Nat} (hc : c ≠ B) (x : String) {v : Val}
    (hv : mentions v B = false) : HFree B (h.setKey c x v) := by
  refine ⟨hf.lt, hf.nomod, ?_⟩
  intro c' hc'
  unfold Heap.setKey Heap.setTab Heap.tab
  simp only
  split
  · rename_i he
    subst he
    exact (hf.tabs c' hc').set_ x hv
  · exact hf.tabs c' hc'

theorem swap_readSym {B : Nat} {s : PSt} (hs : SFree B s) (t' : Table) (x : String) :
    Py.readSym (swap B t' s) x = Py.readSym s x := by
  unfold Py.readSym swap
  cases hl : s.env.locals with
  | some t => simp
  | none => simp only; rw [tab_setTab_ne t' hs.g]

theorem swap_lookupVar {B : Nat} {s : PSt} (hs : SFree B s) (t' : Table) (x : String) :
    Py.lookupVar (swap B t' s) x = Py.lookupVar s x := by
  unfold Py.lookupVar
  rw [swap_readSym hs]
  have h1 : (swap B t' s).env = s.env := rfl
  have h2 : (swap B t' s).h.tab s.env.g = s.h.tab s.env.g := tab_setTab_ne t' hs.g
  rw [h1, h2]

theorem readSym_free {B : Nat} {s : PSt} (hs : SFree B s) {x : String} {v : Val} (h : Py.readSym s x = some v) :
    mentions v B = false := by
  unfold Py.readSym at h
  cases hl : s.env.locals with
  | some t => rw [hl] at h; exact (hs.loc t hl).get_ h
  | none => rw [hl] at h; exact (hs.h.tabs _ hs.g).get_ h

theorem lookupVar_free {B : Nat} {s : PSt} (hs : SFree B s) {x : String} {v : Val} (h : Py.lookupVar s x = .ok v) :
    mentions v B = false := by
  unfold Py.lookupVar at h
  split at h
  · cases hg : tget (s.h.tab s.env.g) x with
    | none => rw [hg] at h; cases h
    | some w => rw [hg] at h; injection h with h; subst h; exact (hs.h.tabs _ hs.g).get_ hg
  · cases hr : Py.readSym s x with
    | some w => rw [hr] at h; injection h with h; subst h; exact readSym_free hs hr
    | none =>
      rw [hr] at h
      cases hg : tget (s.h.tab s.env.g) x with
      | none => rw [hg] at h; cases h
      | some w => rw [hg] at h; injection h with h; subst h; exact (hs.h.tabs _ hs.g).get_ hg

theorem writeSym_frame {B : Nat} {s : PSt} (hs : SFree B s) (x : String) {v : Val} (hv : mentions v B = false) :
    SFree B (Py.writeSym s x v) ∧ ∀ t', Py.writeSym (swap B t' s) x v = swap B t' (Py.writeSym s x v) := by
  unfold Py.writeSym
  cases hl : s.env.locals with
  | some t =>
    refine ⟨⟨hs.h, hs.g, ?_⟩, ?_⟩
    · intro t2 h2
      simp only [Option.some.injEq] at h2
      subst h2
      exact (hs.loc t hl).set_ x hv
    · intro t'
      simp [swap, hl]
  | none =>
    refine ⟨⟨hs.h.set_key hs.g x hv, hs.g, ?_⟩, ?_⟩
    · intro t2 h2
      simp only at h2
      exact hs.loc t2 (by rw [← h2])
    · intro t'
      simp only [swap, hl]
      rw [setKey_swap t' hs.g]

/-! ### import resolution looks at the context objects and the registry, never at a table -/

theorem findLoaded_setTab (h : Heap) (B : Nat) (t' : Table) (cds : List Cand) :
    findLoaded (h.setTab B t') cds = findLoaded h cds := by
  induction cds with
  | nil => rfl
  | cons cd r ih =>
    simp only [findLoaded]
    have h1 : (h.setTab B t').reg = h.reg := rfl
    have h2 : ∀ c, hasModuleAt (h.setTab B t') c = hasModuleAt h c := fun _ => rfl
    rw [h1, ih]
    simp only [h2]

theorem importLookup_setTab (W : World) (h : Heap) (B : Nat) (t' : Table) (g : Nat) (m : Name) (lvl : Nat) :
    importLookup W (h.setTab B t') g m lvl = importLookup W h g m lvl := by
  unfold importLookup
  have h1 : selfCtx (h.setTab B t') g = selfCtx h g := rfl
  rw [h1]
  cases candidates W.cfg (selfCtx h g) m lvl with
  | error e => rfl
  | ok cds => simp only [findLoaded_setTab]

theorem findLoaded_hasModule {h : Heap} {cds : List Cand} {c : Nat} (hf : findLoaded h cds = some c) :
    hasModuleAt h c = true := by
  induction cds with
  | nil => simp [findLoaded] at hf
  | cons cd r ih =>
    simp only [findLoaded] at hf
    cases hg : regGet h.reg cd.ctxName with
    | none => rw [hg] at hf; exact ih hf
    | some c' =>
      rw [hg] at hf
      simp only at hf
      by_cases hm : hasModuleAt h c' = true
      · rw [if_pos hm] at hf
        injection hf with hf
        subst hf
        exact hm
      · rw [if_neg hm] at hf
        exact ih hf

theorem importLookup_found {W : World} {h : Heap} {g : Nat} {m : Name} {lvl c : Nat}
    (hl : importLookup W h g m lvl = .found c) : hasModuleAt h c = true := by
  unfold importLookup at hl
  split at hl
  · cases hl
  · split at hl
    · rename_i hf
      injection hl with hl
      subst hl
      exact findLoaded_hasModule hf
    · split at hl <;> cases hl

theorem length_setHasModule (l : List Ctx) (c : Nat) : (setHasModule l c).length = l.length := by
  induction l generalizing c with
  | nil => rfl
  | cons x r ih => cases c <;> simp [setHasModule, ih]

namespace HFree

theorem load_begin {B : Nat} {h : Heap} (hf : HFree B h) (cd : Cand) :
    HFree B (loadBegin h cd) ∧ ∀ t', loadBegin (h.setTab B t') cd = (loadBegin h cd).setTab B t' := by
  refine ⟨⟨?_, ?_, ?_⟩, ?_⟩
  · simp only [loadBegin, List.length_append, List.length_singleton]
    exact Nat.lt_succ_of_lt hf.lt
  · rw [hasModuleAt_loadBegin]
    exact hf.nomod
  · intro c hc
    simp only [loadBegin, Heap.tab]
    split
    · exact TFree.nil B
    · exact hf.tabs c hc
  · intro t'
    have hne : B ≠ h.ctxs.length := Nat.ne_of_lt hf.lt
    simp only [loadBegin, Heap.setTab]
    congr 1
    funext c'
    by_cases h1 : c' = h.ctxs.length
    · subst h1
      simp [Ne.symm hne]
    · simp [h1]

theorem load_commit {B : Nat} {h : Heap} (hf : HFree B h) (cd : Cand) {c : Nat} (hc : c ≠ B) :
    HFree B (loadCommit h cd c) := by
  refine ⟨?_, ?_, ?_⟩
  · simp only [loadCommit, length_setHasModule]
    exact hf.lt
  · rw [hasModuleAt_loadCommit_ne h cd (Ne.symm hc)]
    exact hf.nomod
  · intro c' hc'
    exact hf.tabs c' hc'

end HFree

/-- reading the heap with another table for the unreferenced context `B` commutes with the evaluator: the frame property
as a simulation -/
theorem view_swap (W : World) (B : Nat) (t' : Table) :
    View W (·.setTab B t') (fun st => Coh st.p ∧ SFree B (abs st)) (fun v => mentions v B = false) where
  coh h := h.1
  consts := ⟨rfl, fun _ => rfl, fun _ => rfl⟩
  cur := fun {st} h => ⟨mentions_mod.mpr h.2.g, fun _ => mentions_fn.mpr (h.1.1 ▸ (show st.p.gst ≠ B from h.2.g))⟩
  name x h := ⟨(swap_lookupVar h.2 t' x).trans (abs_lookupVar h.1 x),
    fun _ e => lookupVar_free h.2 ((abs_lookupVar h.1 x).trans e)⟩
  tab h hc := ⟨tab_setTab_ne t' (mentions_mod.mp hc), h.2.h.tabs _ (mentions_mod.mp hc)⟩
  write x h hv := by
    have a := writeSym_frame h.2 x hv
    rw [abs_writeSym h.1] at a
    exact ⟨a.2 t', h.1.of_same (quiet_writeSym _ x _).same, a.1⟩
  setKey a h hc hw :=
    ⟨setKey_swap t' (mentions_mod.mp hc) a _, h.1, h.2.h.set_key (mentions_mod.mp hc) a hw, h.2.g, h.2.loc⟩
  enter gl h hf hvs hl := by
    refine ⟨coh_enterCall h.1 _ _ gl, ?_⟩
    show SFree B ⟨_, envOf _⟩
    rw [envOf_enterCall h.1]
    exact ⟨h.2.h, mentions_fn.mp hf, fun t ht => by cases ht; exact bindArgs_free hvs hl⟩
  spawn := fun {st fv} own h hf => by
    have hg : st.p.gctx ≠ B := h.1.1 ▸ (show st.p.gst ≠ B from h.2.g)
    refine ⟨coh_fresh _, h.2.h, ?_, fun t ht => by cases ht⟩
    show (if own = true then fnCtx fv st.p.gctx else st.p.gctx) ≠ B
    split
    · cases fv with
      | fn c fid => exact mentions_fn.mp hf
      | _ => exact hg
    · exact hg
  back ha hb := ⟨ha.1, hb.2.h, ha.2.g, ha.2.loc⟩
  lookup m lvl h := ⟨importLookup_setTab W _ B t' _ m lvl, fun c hl => mentions_mod.mpr fun e => by
    cases (e ▸ importLookup_found hl : hasModuleAt _ B = true).symm.trans h.2.h.nomod⟩
  load cd h :=
    have hne : _ ≠ B := Ne.symm (Nat.ne_of_lt h.2.h.lt)
    ⟨rfl, (h.2.h.load_begin cd).2 t', ⟨coh_fresh _, (h.2.h.load_begin cd).1, hne, fun t ht => by cases ht⟩,
      mentions_mod.mpr hne⟩
  commit cd ha hb hc := ⟨rfl, ha.1, hb.2.h.load_commit cd (mentions_mod.mp hc), ha.2.g, ha.2.loc⟩

end PsModel.C11
