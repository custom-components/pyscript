import PsModel.Model.C09
/-! The tables of the model – `State.notify`, the three notify channels, the registration and service counters, the
service owners – are association lists read with `List.lookup`, and its loops are `foldl`s (all but `notifyDel`, which
can stop early).  First what a fold does whose
every step keeps a property, adds a disjunct or removes one, and what `lookup` returns after each shape of update the
model uses, for any key and value types; then, table by table, what each primitive of the model does to it:
`notify_add` / `notify_del`, the counters, `Event.notify` with its bus listener, `service_register` / `service_remove`.
Of generations only their identifiers occur (`union_remove`); nothing here speaks of `World`. -/
namespace PsModel.C09

theorem foldl_inv {σ ι} {P : σ → Prop} {step : σ → ι → σ} (l : List ι) (s : σ) (h : P s)
    (hstep : ∀ s, P s → ∀ x ∈ l, P (step s x)) : P (l.foldl step s) := by
  induction l generalizing s with
  | nil => exact h
  | cons x l ih =>
    exact ih (step s x) (hstep s h x List.mem_cons_self) fun s hs y hy => hstep s hs y (List.mem_cons_of_mem _ hy)

theorem foldl_mem_or {σ ι} {M : σ → Prop} {P : ι → Prop} {step : σ → ι → σ}
    (hstep : ∀ s x, M (step s x) ↔ M s ∨ P x) (l : List ι) (s : σ) : M (l.foldl step s) ↔ M s ∨ ∃ x ∈ l, P x := by
  induction l generalizing s with
  | nil => simp
  | cons x l ih =>
    rw [List.foldl_cons, ih, hstep]
    simp only [List.mem_cons, exists_eq_or_imp, or_assoc]

theorem foldl_mem_and_not {σ ι} {M : σ → Prop} {P : ι → Prop} {step : σ → ι → σ}
    (hstep : ∀ s x, M (step s x) ↔ M s ∧ ¬ P x) (l : List ι) (s : σ) : M (l.foldl step s) ↔ M s ∧ ¬ ∃ x ∈ l, P x := by
  induction l generalizing s with
  | nil => simp
  | cons x l ih =>
    rw [List.foldl_cons, ih, hstep]
    simp only [List.mem_cons, exists_eq_or_imp, not_or, and_assoc]

theorem nodup_map_inj {α β} {f : α → β} {l : List α} (h : (l.map f).Nodup) :
    ∀ ⦃a⦄, a ∈ l → ∀ ⦃b⦄, b ∈ l → f a = f b → a = b :=
  have hp : l.Pairwise fun a b => f a ≠ f b := List.pairwise_map.mp h
  List.Pairwise.forall_of_forall_of_flip (fun _ _ _ => rfl) (hp.imp fun hne e => absurd e hne)
    (hp.imp fun hne e => absurd e.symm hne)

theorem idxList_keys_nodup {α} (l : List α) : ((idxList l).map (·.1)).Nodup := by
  unfold idxList
  rw [List.map_fst_zip (by simp)]
  exact List.nodup_range

theorem idxList_snd_mem {α} {l : List α} {kn : Nat × α} (h : kn ∈ idxList l) : kn.2 ∈ l :=
  (List.of_mem_zip h).2

/-- the queue of the `k`-th decorator of generation `i` is `(i, k)` – the shape of `Spec.Wants` and `Spec.WantsKey` -/
theorem queue_id {α} {l : List α} {i : Nat} {R : Nat × α → Prop} {q : Q}
    (h : ∃ kn ∈ idxList l, q = (i, kn.1) ∧ R kn) : q.1 = i := by
  obtain ⟨kn, _, rfl, _⟩ := h; rfl

/-! ## a table that is the union of what each started generation wants

`W g q`: generation `g` wants queue `q` (at some fixed key).  Starting appends a generation, stopping filters its
identifier out; that the queue carries the identifier makes the second exact. -/

theorem union_append_one {W : Gen → Prop} (gens : List Gen) (g : Gen) :
    (∃ g' ∈ gens ++ [g], W g') ↔ (∃ g' ∈ gens, W g') ∨ W g := by
  simp only [List.mem_append, List.mem_singleton, or_and_right, exists_or, exists_eq_left]

theorem mem_filter_id {gens : List Gen} {i : Nat} {x : Gen} :
    x ∈ gens.filter (fun x => !(x.id == i)) ↔ x ∈ gens ∧ x.id ≠ i := by
  simp only [List.mem_filter, Bool.not_eq_eq_eq_not, Bool.not_true, beq_eq_false_iff_ne, ne_eq]

theorem union_remove {W : Gen → Q → Prop} (hid : ∀ g q, W g q → q.1 = g.id) {gens : List Gen}
    (hnd : (gens.map (·.id)).Nodup) {g : Gen} (hg : g ∈ gens) (q : Q) :
    (∃ g' ∈ gens.filter (fun x => !(x.id == g.id)), W g' q) ↔ (∃ g' ∈ gens, W g' q) ∧ ¬ W g q := by
  simp only [mem_filter_id]
  constructor
  · rintro ⟨g', ⟨hg', hne⟩, hw⟩
    exact ⟨⟨g', hg', hw⟩, fun hw' => hne ((hid _ _ hw).symm.trans (hid _ _ hw'))⟩
  · rintro ⟨⟨g', hg', hw⟩, hnw⟩
    -- same identifier and both started: the same generation
    exact ⟨g', ⟨hg', fun hne => hnw (nodup_map_inj hnd hg' hg hne ▸ hw)⟩, hw⟩

section Assoc
variable {κ ν : Type} [BEq κ] [LawfulBEq κ] [DecidableEq κ]

theorem lookup_cons_ite (k k' : κ) (v : ν) (l : List (κ × ν)) :
    ((k, v) :: l).lookup k' = if k' = k then some v else l.lookup k' := by
  rw [List.lookup_cons]
  by_cases h : k' = k
  · rw [if_pos h, beq_iff_eq.mpr h]
  · rw [if_neg h, beq_eq_false_iff_ne.mpr h]

theorem lookup_mapAt (l : List (κ × ν)) (k k' : κ) (f : ν → ν) :
    (l.map (fun kv => if kv.1 == k then (kv.1, f kv.2) else kv)).lookup k' =
      if k' = k then (l.lookup k).map f else l.lookup k' := by
  induction l with
  | nil => simp
  | cons kv l ih =>
    obtain ⟨a, v⟩ := kv
    rw [List.map_cons]
    by_cases ha : a = k
    · subst ha
      simp only [beq_self_eq_true, if_true, lookup_cons_ite, ih]
      by_cases h : k' = a <;> simp [h]
    · simp only [beq_eq_false_iff_ne.mpr ha, Bool.false_eq_true, if_false, lookup_cons_ite, ih, Ne.symm ha]
      by_cases h : k' = a
      · subst h; simp [ha]
      · simp [h]

theorem lookup_filterKey (l : List (κ × ν)) (k k' : κ) :
    (l.filter (fun kv => !(kv.1 == k))).lookup k' = if k' = k then none else l.lookup k' := by
  induction l with
  | nil => simp
  | cons kv l ih =>
    obtain ⟨a, v⟩ := kv
    by_cases ha : a = k
    · subst ha
      rw [List.filter_cons_of_neg (by simp), ih, lookup_cons_ite]
      by_cases h : k' = a <;> simp [h]
    · rw [List.filter_cons_of_pos (by simpa using ha), lookup_cons_ite, lookup_cons_ite, ih]
      by_cases h : k' = a
      · subst h; simp [ha]
      · simp [h]

theorem any_key (l : List (κ × ν)) (k : κ) : l.any (fun kv => kv.1 == k) = (l.lookup k).isSome := by
  induction l with
  | nil => rfl
  | cons kv l ih =>
    obtain ⟨a, v⟩ := kv
    rw [List.any_cons, ih, lookup_cons_ite]
    by_cases h : k = a
    · subst h; simp only [beq_self_eq_true, Bool.true_or, if_true, Option.isSome_some]
    · simp only [beq_eq_false_iff_ne.mpr (Ne.symm h), Bool.false_or, if_neg h]

theorem lookup_append_new (l : List (κ × ν)) (k k' : κ) (v : ν) (h : l.lookup k = none) :
    (l ++ [(k, v)]).lookup k' = if k' = k then some v else l.lookup k' := by
  rw [List.lookup_append, lookup_cons_ite]
  by_cases hk : k' = k
  · rw [if_pos hk, if_pos hk, hk, h]; rfl
  · rw [if_neg hk, if_neg hk, List.lookup_nil, Option.or_none]

/-- insert-or-update, the shape of `addSub`, `busInc` and `svcInc` -/
theorem lookup_upsert (l : List (κ × ν)) (k k' : κ) (f : ν → ν) (v : ν) :
    (if l.any (fun kv => kv.1 == k) then l.map (fun kv => if kv.1 == k then (kv.1, f kv.2) else kv)
      else l ++ [(k, v)]).lookup k' = if k' = k then some ((l.lookup k).elim v f) else l.lookup k' := by
  rw [any_key]
  cases hl : l.lookup k with
  | none => rw [Option.isSome_none, if_neg Bool.false_ne_true, lookup_append_new _ _ _ _ hl]; rfl
  | some a => rw [Option.isSome_some, if_pos rfl, lookup_mapAt, hl]; rfl

end Assoc

theorem hasEnt_eq (t : StateTbl) (e : Ent) : hasEnt t e = (t.lookup e).isSome := any_key t e

theorem subsOf_of_not_has (t : StateTbl) (e : Ent) (h : hasEnt t e = false) : subsOf t e = [] := by
  rw [hasEnt_eq, Option.isSome_eq_false_iff, Option.isNone_iff_eq_none] at h
  rw [subsOf, h]; rfl

theorem lookup_addSub (t : StateTbl) (e e' : Ent) (q : Q) :
    (addSub t e q).lookup e' =
      if e' = e then some (if (subsOf t e).contains q then subsOf t e else subsOf t e ++ [q]) else t.lookup e' := by
  unfold addSub hasEnt subsOf
  rw [lookup_upsert t e e' (fun l => if l.contains q then l else l ++ [q])]
  cases t.lookup e <;> rfl

theorem subsOf_addSub (t : StateTbl) (e e' : Ent) (q : Q) :
    subsOf (addSub t e q) e' =
      if e' = e then (if (subsOf t e).contains q then subsOf t e else subsOf t e ++ [q]) else subsOf t e' := by
  rw [subsOf, lookup_addSub]; exact apply_ite (Option.getD · []) ..

theorem hasEnt_addSub (t : StateTbl) (e e' : Ent) (q : Q) :
    hasEnt (addSub t e q) e' = if e' = e then true else hasEnt t e' := by
  rw [hasEnt_eq, lookup_addSub, hasEnt_eq]; exact apply_ite Option.isSome ..

theorem subsOf_delSub (t : StateTbl) (e e' : Ent) (q : Q) :
    subsOf (delSub t e q) e' = if e' = e then (subsOf t e).filter (fun x => !(x == q)) else subsOf t e' := by
  rw [subsOf, delSub, lookup_mapAt, apply_ite (Option.getD · []), subsOf]
  cases t.lookup e <;> rfl

theorem hasEnt_delSub (t : StateTbl) (e e' : Ent) (q : Q) : hasEnt (delSub t e q) e' = hasEnt t e' := by
  rw [hasEnt_eq, delSub, lookup_mapAt, hasEnt_eq]
  by_cases he : e' = e
  · rw [if_pos he, he]; cases t.lookup e <;> rfl
  · rw [if_neg he]

theorem subsOf_filterKey (t : StateTbl) (e e' : Ent) :
    subsOf (t.filter (fun kv => !(kv.1 == e))) e' = if e' = e then [] else subsOf t e' := by
  rw [subsOf, lookup_filterKey]; exact apply_ite (Option.getD · []) ..

theorem hasEnt_filterKey (t : StateTbl) (e e' : Ent) :
    hasEnt (t.filter (fun kv => !(kv.1 == e))) e' = if e' = e then false else hasEnt t e' := by
  rw [hasEnt_eq, lookup_filterKey, hasEnt_eq]; exact apply_ite Option.isSome ..

theorem mem_addSub (t : StateTbl) (e e' : Ent) (q q' : Q) :
    q' ∈ subsOf (addSub t e q) e' ↔ q' ∈ subsOf t e' ∨ (q' = q ∧ e' = e) := by
  rw [subsOf_addSub]
  by_cases he : e' = e
  · subst he
    by_cases hc : (subsOf t e').contains q = true
    · rw [if_pos rfl, if_pos hc]
      exact ⟨.inl, fun h => h.elim id fun h => h.1 ▸ List.contains_iff_mem.mp hc⟩
    · rw [if_pos rfl, if_neg hc, List.mem_append, List.mem_singleton, and_iff_left rfl]
  · rw [if_neg he]
    exact ⟨.inl, fun h => h.elim id fun h => absurd h.2 he⟩

theorem mem_delSub (t : StateTbl) (e e' : Ent) (q q' : Q) :
    q' ∈ subsOf (delSub t e q) e' ↔ q' ∈ subsOf t e' ∧ ¬ (q' = q ∧ e' = e) := by
  rw [subsOf_delSub]
  by_cases he : e' = e
  · subst he; simp
  · simp [he]

theorem mem_entsOf {names : List Var} {e : Ent} : e ∈ entsOf names ↔ ∃ v ∈ names, validVar v = true ∧ entOf v = e := by
  simp only [entsOf, List.mem_map, List.mem_filter, and_assoc]

theorem entsOf_cons (v : Var) (vs : List Var) :
    entsOf (v :: vs) = if validVar v then entOf v :: entsOf vs else entsOf vs := by
  unfold entsOf
  rw [List.filter_cons]
  exact apply_ite (List.map entOf) ..

theorem entsOf_perm {a b : List Var} (h : a.Perm b) : (entsOf a).Perm (entsOf b) :=
  (h.filter _).map _

theorem mem_notifyAdd (names : List Var) (q : Q) (t : StateTbl) (e : Ent) (q' : Q) :
    q' ∈ subsOf (notifyAdd names q t) e ↔ q' ∈ subsOf t e ∨ (q' = q ∧ e ∈ entsOf names) := by
  induction names generalizing t with
  | nil => simp [notifyAdd, entsOf]
  | cons v vs ih =>
    rw [notifyAdd, List.foldl_cons, ← notifyAdd, ih, entsOf_cons]
    by_cases hv : validVar v = true
    · rw [if_pos hv, if_pos hv, mem_addSub, List.mem_cons, and_or_left, or_assoc]
    · rw [if_neg hv, if_neg hv]

/-- `notify_del` removes exactly the named entities' subscription – today's loop (`continue`) always, the pre-fix loop
(`return`) when every entity is named once and still lists the queue -/
theorem mem_notifyDel (cont : Bool) (names : List Var) (q : Q) (t : StateTbl)
    (h : cont = true ∨ ((entsOf names).Nodup ∧ ∀ e ∈ entsOf names, q ∈ subsOf t e)) (e : Ent) (q' : Q) :
    q' ∈ subsOf (notifyDel cont q names t) e ↔ q' ∈ subsOf t e ∧ ¬ (q' = q ∧ e ∈ entsOf names) := by
  induction names generalizing t with
  | nil => simp [notifyDel, entsOf]
  | cons v vs ih =>
    rw [notifyDel]
    rw [entsOf_cons] at h ⊢
    by_cases hv : validVar v = true
    · simp only [hv, Bool.not_true, Bool.false_eq_true, if_false, if_true] at h ⊢
      by_cases hc : (subsOf t (entOf v)).contains q = true
      · rw [if_pos hc, ih, mem_delSub, List.mem_cons, and_or_left, not_or, and_assoc]
        · -- the other entities keep the queue: they are not `entOf v`
          refine h.imp id fun ⟨hnd, hall⟩ => ⟨(List.nodup_cons.mp hnd).2, fun x hx => (mem_delSub ..).mpr
            ⟨hall x (List.mem_cons_of_mem _ hx), fun hx' => (List.nodup_cons.mp hnd).1 (hx'.2 ▸ hx)⟩⟩
      · -- the queue is not at `entOf v`: only today's loop gets here
        have hq : q ∉ subsOf t (entOf v) := fun hq => hc (List.contains_iff_mem.mpr hq)
        obtain rfl : cont = true := h.resolve_right fun h => hq (h.2 _ List.mem_cons_self)
        rw [if_neg hc, if_pos rfl, ih _ (.inl rfl), List.mem_cons]
        exact and_congr_right fun hm => not_congr
          ⟨fun h => ⟨h.1, .inr h.2⟩, fun h => ⟨h.1, h.2.resolve_left fun he => hq (he ▸ h.1 ▸ hm)⟩⟩
    · simp only [hv, Bool.false_eq_true, if_false, Bool.not_false, if_true] at h ⊢
      exact ih t h

theorem mem_notifyDel_notifyAdd (cont : Bool) (names names' : List Var) (hp : names'.Perm names)
    (hc : cont = true ∨ (entsOf names').Nodup) (q : Q) (t : StateTbl) (hfresh : ∀ e, q ∉ subsOf t e) (e : Ent) (q' : Q) :
    q' ∈ subsOf (notifyDel cont q names' (notifyAdd names q t)) e ↔ q' ∈ subsOf t e := by
  have hperm : ∀ x, x ∈ entsOf names' ↔ x ∈ entsOf names := fun x => (entsOf_perm hp).mem_iff
  rw [mem_notifyDel, mem_notifyAdd, hperm]
  · exact ⟨fun h => h.1.resolve_right h.2, fun h => ⟨.inl h, fun hq => hfresh e (hq.1 ▸ h)⟩⟩
  · exact hc.imp id fun hnd => ⟨hnd, fun x hx => (mem_notifyAdd ..).mpr (.inr ⟨rfl, (hperm x).mp hx⟩)⟩

/-- the pre-fix loop needs every queue still subscribed where it is to be removed; queues with different indices do not
disturb each other -/
theorem mem_foldl_notifyDel (cont : Bool) (i : Nat) (e : Ent) (q' : Q) (l : List (Nat × List Var)) (t : StateTbl)
    (hnd : (l.map (·.1)).Nodup)
    (h : cont = true ∨ ((∀ kn ∈ l, (entsOf kn.2).Nodup) ∧ ∀ kn ∈ l, ∀ x ∈ entsOf kn.2, (i, kn.1) ∈ subsOf t x)) :
    q' ∈ subsOf (l.foldl (fun t kv => notifyDel cont (i, kv.1) kv.2 t) t) e ↔
      q' ∈ subsOf t e ∧ ¬ ∃ kn ∈ l, q' = (i, kn.1) ∧ e ∈ entsOf kn.2 := by
  induction l generalizing t with
  | nil => simp
  | cons kv l ih =>
    rw [List.map_cons, List.nodup_cons] at hnd
    have hstep : ∀ x y, y ∈ subsOf (notifyDel cont (i, kv.1) kv.2 t) x ↔
        y ∈ subsOf t x ∧ ¬ (y = (i, kv.1) ∧ x ∈ entsOf kv.2) := fun x y =>
      mem_notifyDel _ _ _ _ (h.imp id fun h => ⟨h.1 kv List.mem_cons_self, h.2 kv List.mem_cons_self⟩) x y
    rw [List.foldl_cons, ih _ hnd.2, hstep]
    · simp only [List.mem_cons, exists_eq_or_imp, not_or, and_assoc]
    · refine h.imp id fun h => ⟨fun kn hk => h.1 kn (List.mem_cons_of_mem _ hk), fun kn hk x hx => (hstep ..).mpr
        ⟨h.2 kn (List.mem_cons_of_mem _ hk) x hx, fun heq => ?_⟩⟩
      have : kn.1 = kv.1 := congrArg Prod.snd heq.1
      exact hnd.1 (this ▸ List.mem_map_of_mem (f := (·.1)) hk)

theorem busCount_inc (b : List (String × Nat)) (ty ty' : String) :
    busCount (busInc b ty) ty' = if ty' = ty then busCount b ty + 1 else busCount b ty' := by
  unfold busInc busCount
  rw [lookup_upsert b ty ty' (· + 1), apply_ite (Option.getD · 0)]
  cases b.lookup ty <;> rfl

theorem busCount_dec (b : List (String × Nat)) (ty ty' : String) :
    busCount (busDec b ty) ty' = if ty' = ty then busCount b ty - 1 else busCount b ty' := by
  unfold busDec busCount
  rw [lookup_mapAt b ty ty' (· - 1), apply_ite (Option.getD · 0)]
  cases b.lookup ty <;> rfl

theorem count_cons_ite (k x : String) (xs : List String) : (x :: xs).count k = xs.count k + if k = x then 1 else 0 := by
  rw [List.count_cons]
  by_cases h : k = x
  · rw [if_pos h, if_pos (beq_iff_eq.mpr h.symm)]
  · rw [if_neg h, if_neg (fun hb => h (beq_iff_eq.mp hb).symm)]

theorem foldl_busInc_count (k : String) (keys : List String) (b : List (String × Nat)) :
    busCount (keys.foldl busInc b) k = busCount b k + keys.count k := by
  induction keys generalizing b with
  | nil => rfl
  | cons x xs ih =>
    rw [List.foldl_cons, ih, busCount_inc, count_cons_ite]
    by_cases h : k = x
    · rw [if_pos h, if_pos h, h]; exact Nat.add_right_comm ..
    · rw [if_neg h, if_neg h]; rfl

theorem foldl_busDec_count (k : String) (keys : List String) (b : List (String × Nat)) :
    busCount (keys.foldl busDec b) k = busCount b k - keys.count k := by
  induction keys generalizing b with
  | nil => rfl
  | cons x xs ih =>
    rw [List.foldl_cons, ih, busCount_dec, count_cons_ite]
    by_cases h : k = x
    · rw [if_pos h, if_pos h, h, Nat.sub_sub, Nat.add_comm]
    · rw [if_neg h, if_neg h]; rfl

theorem list_singleton_inj {a b : String} : ([a] : List String) = [b] ↔ a = b := by simp

/-- the channels key their tables by one-element lists -/
theorem ite_singleton {α} (a b : String) (x y : α) : (if [a] = [b] then x else y) = if a = b then x else y := by
  by_cases h : a = b <;> simp [h]

theorem evHas_evAdd (s : EvSt) (ty ty' : String) (q : Q) :
    evHas (evAdd s ty q) ty' = if ty' = ty then true else evHas s ty' := by
  rw [evHas, evAdd, hasEnt_addSub, ite_singleton]; rfl

theorem mem_evAdd (s : EvSt) (ty ty' : String) (q q' : Q) :
    q' ∈ evSubs (evAdd s ty q) ty' ↔ q' ∈ evSubs s ty' ∨ (q' = q ∧ ty = ty') := by
  simp only [evSubs, evAdd, mem_addSub, list_singleton_inj, eq_comm]

/-- `Event.notify_del` does to the subscriber lists what `delSub` does, whichever of its three branches runs -/
theorem evSubs_evDel (s : EvSt) (ty ty' : String) (q : Q) :
    evSubs (evDel s ty q) ty' = subsOf (delSub s.tbl [ty] q) [ty'] := by
  unfold evDel
  by_cases h1 : (!evHas s ty || !(evSubs s ty).contains q) = true
  · rw [if_pos h1, evSubs, subsOf_delSub]
    by_cases he : [ty'] = [ty]
    · rw [if_pos he, he]
      -- nothing to remove: the queue is not in the list
      have hq : q ∉ subsOf s.tbl [ty] := fun hq => by
        rw [evSubs, List.contains_iff_mem.mpr hq, Bool.not_true, Bool.or_false, Bool.not_eq_true'] at h1
        rw [subsOf_of_not_has _ _ h1] at hq
        exact absurd hq List.not_mem_nil
      refine (List.filter_eq_self.mpr fun x hx => ?_).symm
      have : x ≠ q := fun hxq => hq (hxq ▸ hx)
      simpa using this
    · rw [if_neg he]
  · rw [if_neg h1]
    by_cases h2 : ((evSubs s ty).filter (fun x => !(x == q))).isEmpty = true
    · rw [if_pos h2, evSubs, subsOf_filterKey, subsOf_delSub, ← List.isEmpty_iff.mp h2]; rfl
    · rw [if_neg h2]; rfl

theorem mem_evDel (s : EvSt) (ty ty' : String) (q q' : Q) :
    q' ∈ evSubs (evDel s ty q) ty' ↔ q' ∈ evSubs s ty' ∧ ¬ (q' = q ∧ ty = ty') := by
  rw [evSubs_evDel, mem_delSub, list_singleton_inj, @eq_comm _ ty']
  exact Iff.rfl

/-- invariant of `Event.notify` + bus: one bus listener per event type with an entry, entries are never empty -/
structure EvOK (s : EvSt) : Prop where
  count : ∀ ty, busCount s.bus ty = if evHas s ty then 1 else 0
  nonempty : ∀ ty, evHas s ty = true → evSubs s ty ≠ []

theorem evOK_has {s : EvSt} (h : EvOK s) (ty : String) : evHas s ty = true ↔ evSubs s ty ≠ [] :=
  ⟨h.nonempty ty, fun hne => by
    cases hh : evHas s ty
    · exact absurd (subsOf_of_not_has _ _ hh) hne
    · rfl⟩

theorem evOK_count {s : EvSt} (h : EvOK s) (ty : String) :
    busCount s.bus ty = (if (evSubs s ty).isEmpty then 0 else 1) := by
  rw [h.count ty]
  cases hh : evHas s ty
  · rw [show evSubs s ty = [] from subsOf_of_not_has _ _ hh]; rfl
  · rw [if_pos rfl, if_neg (by simpa using h.nonempty ty hh)]

theorem evOK_empty : EvOK { tbl := [], bus := [] } :=
  ⟨fun _ => rfl, fun _ h => absurd h Bool.false_ne_true⟩

theorem evAdd_ok {s : EvSt} (h : EvOK s) (ty : String) (q : Q) : EvOK (evAdd s ty q) := by
  constructor
  · intro ty'
    rw [evHas_evAdd]
    show busCount (if evHas s ty then s.bus else busInc s.bus ty) ty' = _
    have hc := h.count ty
    by_cases he : ty' = ty
    · subst he
      rw [if_pos rfl, if_pos rfl]
      cases hh : evHas s ty'
      · rw [if_neg Bool.false_ne_true, busCount_inc, if_pos rfl, hc, hh]; rfl
      · rw [if_pos rfl, hc, hh]; rfl
    · rw [if_neg he, ← h.count ty', apply_ite (busCount · ty'), busCount_inc, if_neg he, ite_self]
  · intro ty' hh
    rw [evHas_evAdd] at hh
    by_cases he : ty' = ty
    · exact List.ne_nil_of_mem ((mem_evAdd ..).mpr (.inr ⟨rfl, he.symm⟩))
    · obtain ⟨x, hx⟩ := List.exists_mem_of_ne_nil _ (h.nonempty ty' (by simpa [he] using hh))
      exact List.ne_nil_of_mem ((mem_evAdd ..).mpr (.inl hx))

theorem evDel_ok {s : EvSt} (h : EvOK s) (ty : String) (q : Q) : EvOK (evDel s ty q) := by
  unfold evDel
  by_cases h1 : (!evHas s ty || !(evSubs s ty).contains q) = true
  · rw [if_pos h1]; exact h
  rw [if_neg h1]
  have hhas : evHas s ty = true := by
    cases hh : evHas s ty
    · rw [hh] at h1; exact absurd rfl h1
    · rfl
  by_cases h2 : ((evSubs s ty).filter (fun x => !(x == q))).isEmpty = true
  · -- the last queue of `ty` goes, and the entry and the listener with it
    rw [if_pos h2]
    refine ⟨fun ty' => ?_, fun ty' hh => ?_⟩
    · rw [evHas, hasEnt_filterKey, ite_singleton, busCount_dec]
      by_cases he : ty' = ty
      · rw [if_pos he, if_pos he, h.count ty, hhas]; rfl
      · rw [if_neg he, if_neg he]; exact h.count ty'
    · rw [evHas, hasEnt_filterKey, ite_singleton] at hh
      rw [evSubs, subsOf_filterKey, ite_singleton]
      by_cases he : ty' = ty
      · rw [if_pos he] at hh; exact absurd hh Bool.false_ne_true
      · rw [if_neg he] at hh ⊢; exact h.nonempty ty' hh
  · rw [if_neg h2]
    refine ⟨fun ty' => ?_, fun ty' hh => ?_⟩
    · rw [evHas, hasEnt_delSub]; exact h.count ty'
    · rw [evHas, hasEnt_delSub] at hh
      rw [evSubs, subsOf_delSub, ite_singleton]
      by_cases he : ty' = ty
      · rw [if_pos he]; exact fun hnil => h2 (List.isEmpty_iff.mpr hnil)
      · rw [if_neg he]; exact h.nonempty ty' hh

theorem evRun_ok (ops : List EvOp) : EvOK (evRun ops) :=
  foldl_inv ops _ evOK_empty fun s h op _ => by
    cases op with
    | add ty q => exact evAdd_ok h ty q
    | del ty q => exact evDel_ok h ty q

theorem chanSub_nil (sub : Sub) (i : Nat) (s : EvSt) : chanSub sub i [] s = s := by
  cases sub <;> rfl

theorem mem_chanSub_legacy (i : Nat) (keys : List String) (s : EvSt) (key : String) (q : Q) :
    q ∈ evSubs (chanSub .legacy i keys s) key ↔ q ∈ evSubs s key ∨ ∃ kn ∈ idxList keys, q = (i, kn.1) ∧ kn.2 = key :=
  foldl_mem_or (M := fun s => q ∈ evSubs s key) (fun s kn => mem_evAdd s kn.2 key (i, kn.1) q) _ s

theorem mem_chanUnsub_legacy (i : Nat) (keys : List String) (s : EvSt) (key : String) (q : Q) :
    q ∈ evSubs (chanUnsub .legacy i keys s) key ↔ q ∈ evSubs s key ∧ ¬ ∃ kn ∈ idxList keys, q = (i, kn.1) ∧ kn.2 = key :=
  foldl_mem_and_not (M := fun s => q ∈ evSubs s key) (fun s kn => mem_evDel s kn.2 key (i, kn.1) q) _ s

theorem svcInc_eq (s : List (String × Nat)) (n : String) : svcInc s n = busInc s n := rfl

theorem svcDec_eq (s : List (String × Nat)) (n : String) : svcDec s n = busDec s n := by
  unfold svcDec busDec
  apply List.map_congr_left
  intro kv _
  by_cases h : 1 < kv.2
  · rw [if_pos h]
  · rw [if_neg h, Nat.sub_eq_zero_of_le (Nat.not_lt.mp h)]

theorem ownerOf_claim (c : String) (o : List (String × String)) (n n' : String) :
    ownerOf (ownerClaim c o n) n' = if n' = n ∧ ownerOf o n = none then some c else ownerOf o n' := by
  unfold ownerClaim ownerOf
  rw [any_key]
  cases h : o.lookup n with
  | none => rw [Option.isSome_none, if_neg Bool.false_ne_true, lookup_append_new _ _ _ _ h]; simp
  | some c' => simp

theorem ownerOf_claim_fold (c : String) (n' : String) (l : List String) (o : List (String × String)) :
    ownerOf (l.foldl (ownerClaim c) o) n' = if n' ∈ l ∧ ownerOf o n' = none then some c else ownerOf o n' := by
  induction l generalizing o with
  | nil => simp
  | cons x xs ih =>
    rw [List.foldl_cons, ih, ownerOf_claim]
    by_cases hx : n' = x
    · subst hx
      cases h : ownerOf o n' <;> simp
    · simp [hx]

theorem svcRelease_count (p : List (String × Nat) × List (String × String)) (x n : String) :
    svcCount (svcRelease p x).1 n = svcCount p.1 n - if n = x then 1 else 0 := by
  show busCount (svcDec p.1 x) n = busCount p.1 n - _
  rw [svcDec_eq, busCount_dec]
  by_cases h : n = x
  · rw [if_pos h, if_pos h, h]
  · rw [if_neg h, if_neg h]; rfl

theorem svcRelease_owner (p : List (String × Nat) × List (String × String)) (x n : String) :
    ownerOf (svcRelease p x).2 n = if n = x ∧ svcCount p.1 n ≤ 1 then none else ownerOf p.2 n := by
  show ownerOf (if 1 < svcCount p.1 x then p.2 else p.2.filter (fun kv => !(kv.1 == x))) n = _
  by_cases hn : n = x
  · subst hn
    by_cases hc : 1 < svcCount p.1 n
    · rw [if_pos hc, if_neg (fun h : _ ∧ _ => Nat.not_le.mpr hc h.2)]
    · rw [if_neg hc, if_pos ⟨rfl, Nat.not_lt.mp hc⟩, ownerOf, lookup_filterKey, if_pos rfl]
  · rw [if_neg (fun h : _ ∧ _ => hn h.1), apply_ite (ownerOf · n)]
    simp only [ownerOf, lookup_filterKey, if_neg hn, ite_self]

theorem svcRelease_fold (n : String) (l : List String) (p : List (String × Nat) × List (String × String))
    (hJ : ownerOf p.2 n = none ↔ svcCount p.1 n = 0) :
    svcCount (l.foldl svcRelease p).1 n = svcCount p.1 n - l.count n ∧
    (ownerOf (l.foldl svcRelease p).2 n = none ↔ svcCount (l.foldl svcRelease p).1 n = 0) ∧
    (ownerOf (l.foldl svcRelease p).2 n = none ∨ ownerOf (l.foldl svcRelease p).2 n = ownerOf p.2 n) := by
  induction l generalizing p with
  | nil => exact ⟨rfl, hJ, .inr rfl⟩
  | cons x l ih =>
    have hc := svcRelease_count p x n
    have ho := svcRelease_owner p x n
    have hJ' : ownerOf (svcRelease p x).2 n = none ↔ svcCount (svcRelease p x).1 n = 0 := by
      rw [hc, ho]
      by_cases hx : n = x
      · by_cases hle : svcCount p.1 n ≤ 1
        · rw [if_pos ⟨hx, hle⟩, if_pos hx]; exact ⟨fun _ => Nat.sub_eq_zero_of_le hle, fun _ => rfl⟩
        · rw [if_neg (fun h => hle h.2), if_pos hx, hJ]
          exact ⟨fun h => absurd (h ▸ Nat.zero_le 1) hle, fun h => absurd (Nat.le_of_sub_eq_zero h) hle⟩
      · rw [if_neg (fun h => hx h.1), if_neg hx, hJ]; rfl
    obtain ⟨h1, h2, h3⟩ := ih (svcRelease p x) hJ'
    rw [List.foldl_cons]
    refine ⟨?_, h2, ?_⟩
    · rw [h1, hc, count_cons_ite, Nat.sub_sub, Nat.add_comm]
    · rw [ho] at h3
      by_cases hx : n = x ∧ svcCount p.1 n ≤ 1
      · rw [if_pos hx] at h3; exact .inl (h3.elim id id)
      · rw [if_neg hx] at h3; exact h3

theorem dupFree_count {l : List String} (h : dupFree l = true) (k : String) : l.count k ≤ 1 := by
  induction l with
  | nil => exact Nat.zero_le 1
  | cons x xs ih =>
    simp only [dupFree, Bool.and_eq_true, Bool.not_eq_eq_eq_not, Bool.not_true] at h
    rw [count_cons_ite]
    by_cases hk : k = x
    · rw [if_pos hk, hk, List.count_eq_zero.mpr (by simpa using h.1)]
      exact Nat.le_refl 1
    · rw [if_neg hk]; exact ih h.2

end PsModel.C09
