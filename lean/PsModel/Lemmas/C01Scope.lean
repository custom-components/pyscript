import PsModel.Spec.C01
set_option linter.unusedSectionVars false
set_option linter.unusedVariables false
/-!
# C01 lemmas – the scope of comprehension loop variables on the flat store

`Store.hide σ U` = the store in which the names `U` are unbound.  Python runs a comprehension in a fresh scope: all loop
variables are unbound until their generator binds them.  pyscript runs it in the enclosing table, where a loop variable
keeps the enclosing value until it is assigned.  The two runs stay related by `σ_python = hide σ_pyscript U'` for a set
`U'` of still-unbound loop variables, as long as no clause mentions a name that may be unbound (`earlyFree`); evaluation
commutes with `hide` (`eval_hide`, by structural recursion over the whole syntax), assignment to a target shrinks the
hidden set (`assign_minus`), and `Store.restore` forgets the difference (`restore_hide_sub`).
-/
namespace PsModel.C01

variable {W : Type}

@[simp] theorem py_dictKeyFirst : Cfg.python.dictKeyFirst = true := rfl
@[simp] theorem py_callArgsFirst : Cfg.python.callArgsFirst = true := rfl
@[simp] theorem py_compareOnce : Cfg.python.compareOnce = true := rfl
@[simp] theorem py_augTargetOnce : Cfg.python.augTargetOnce = true := rfl
@[simp] theorem py_augInPlace : Cfg.python.augInPlace = true := rfl
@[simp] theorem py_fstrConversion : Cfg.python.fstrConversion = true := rfl
@[simp] theorem py_dupKwCheck : Cfg.python.dupKwCheck = true := rfl
@[simp] theorem py_listTarget : Cfg.python.listTarget = true := rfl
@[simp] theorem py_uaddApplies : Cfg.python.uaddApplies = true := rfl

@[simp] theorem bind_ok {α β} (a : α) (w : W) (k : α → W → R W β) : bind ((.ok a, w) : R W α) k = k a w := rfl
@[simp] theorem bind_err {α β} (e : Exc) (w : W) (k : α → W → R W β) :
    bind ((.error e, w) : R W α) k = (.error e, w) := rfl

theorem bind_congr_ok {α β} {r : R W α} {k k' : α → W → R W β} (hk : ∀ a w, r = (.ok a, w) → k a w = k' a w) :
    bind r k = bind r k' := by
  rcases r with ⟨(e | a), w⟩
  · rfl
  · exact hk a w rfl

theorem bind_congr {α β} {r r' : R W α} {k k' : α → W → R W β} (hr : r = r') (hk : ∀ a w, k a w = k' a w) :
    bind r k = bind r' k' :=
  hr ▸ bind_congr_ok fun a w _ => hk a w

/-- every flag on.  The reference evaluator is taken as any `py` with `AllOn py`, not as `Cfg.python`: a proof then uses a flag only
through the one equation it names, and `eval py P` does not unfold. -/
structure AllOn (py : Cfg) : Prop where
  dictKeyFirst : py.dictKeyFirst = true
  callArgsFirst : py.callArgsFirst = true
  compareOnce : py.compareOnce = true
  augTargetOnce : py.augTargetOnce = true
  augInPlace : py.augInPlace = true
  fstrConversion : py.fstrConversion = true
  dupKwCheck : py.dupKwCheck = true
  listTarget : py.listTarget = true
  uaddApplies : py.uaddApplies = true
  kwGroupMerge : py.kwGroupMerge = true
  compFresh : py.compFresh = true

theorem allOn_python : AllOn Cfg.python := ⟨rfl, rfl, rfl, rfl, rfl, rfl, rfl, rfl, rfl, rfl, rfl⟩

theorem hide_eq (σ : Store) (U : List String) : Store.hide σ U = σ.filter (fun p => decide (p.1 ∉ U)) := by
  simp [Store.hide, List.contains_eq_mem]

theorem hide_nil (σ : Store) : Store.hide σ [] = σ := by simp [hide_eq]

theorem hide_cons_in (p : String × Val) (r : Store) (U : List String) (h : p.1 ∈ U) :
    Store.hide (p :: r) U = Store.hide r U := by simp [hide_eq, h]

theorem hide_cons_notin (p : String × Val) (r : Store) (U : List String) (h : p.1 ∉ U) :
    Store.hide (p :: r) U = p :: Store.hide r U := by simp [hide_eq, h]

theorem store_get_cons (p : String × Val) (r : Store) (x : String) :
    Store.get (p :: r) x = if p.1 = x then some p.2 else Store.get r x := by
  by_cases h : p.1 = x <;> simp [Store.get, h]

theorem get_hide (U : List String) (x : String) (hx : x ∉ U) (σ : Store) :
    Store.get (Store.hide σ U) x = Store.get σ x := by
  induction σ with
  | nil => rfl
  | cons p r ih =>
    by_cases hp : p.1 ∈ U
    · have hne : ¬ p.1 = x := fun h => hx (h ▸ hp)
      rw [hide_cons_in p r U hp, store_get_cons, if_neg hne, ih]
    · rw [hide_cons_notin p r U hp, store_get_cons, store_get_cons, ih]

theorem del_eq (σ : Store) (x : String) : Store.del σ x = σ.filter (fun p => decide (p.1 ≠ x)) := by
  simp [Store.del, bne]
  congr 1

theorem set_eq (σ : Store) (x : String) (v : Val) : Store.set σ x v = (x, v) :: Store.del σ x := rfl

theorem hide_del (σ : Store) (U : List String) (x : String) :
    Store.del (Store.hide σ U) x = Store.hide (Store.del σ x) U := by
  simp only [hide_eq, del_eq, List.filter_filter]
  congr 1; funext p; exact Bool.and_comm _ _

theorem hide_hide_comm (σ : Store) (A B : List String) :
    Store.hide (Store.hide σ A) B = Store.hide (Store.hide σ B) A := by
  simp only [hide_eq, List.filter_filter]
  congr 1; funext p; exact Bool.and_comm _ _

theorem hide_set_notin (σ : Store) (U : List String) (x : String) (v : Val) (hx : x ∉ U) :
    Store.set (Store.hide σ U) x v = Store.hide (Store.set σ x v) U := by
  rw [set_eq, set_eq, hide_cons_notin _ _ _ (by simpa using hx), hide_del]

theorem mem_minus (U ns : List String) (x : String) : x ∈ minus U ns ↔ x ∈ U ∧ x ∉ ns := by
  simp [minus, List.contains_eq_mem]

theorem hide_del_minus (σ : Store) (U : List String) (x : String) :
    Store.hide (Store.del σ x) (minus U [x]) = Store.del (Store.hide σ U) x := by
  simp only [hide_eq, del_eq, List.filter_filter]
  apply List.filter_congr
  intro p _
  by_cases h : p.1 = x <;> simp [mem_minus, h]

/-- assigning `x` binds it: `x` leaves the hidden set -/
theorem hide_set_minus (σ : Store) (U : List String) (x : String) (v : Val) :
    Store.set (Store.hide σ U) x v = Store.hide (Store.set σ x v) (minus U [x]) := by
  rw [set_eq, set_eq, hide_cons_notin _ _ _ (by simp [mem_minus]), hide_del_minus]

theorem minus_nil (U : List String) : minus U [] = U := by simp [minus]

theorem minus_minus (U a b : List String) : minus (minus U a) b = minus U (a ++ b) := by
  simp only [minus, List.filter_filter]
  apply List.filter_congr
  intro x _
  by_cases ha : x ∈ a <;> by_cases hb : x ∈ b <;> simp [List.contains_eq_mem, ha, hb]

theorem minus_self_append (a b : List String) : minus (minus (a ++ b) a) b = [] :=
  List.eq_nil_iff_forall_not_mem.2 fun x hx => by
    obtain ⟨hab, hb⟩ := (mem_minus _ _ x).1 hx
    obtain ⟨hm, ha⟩ := (mem_minus _ _ x).1 hab
    exact (List.mem_append.1 hm).elim ha hb

theorem avoids_iff (U ns : List String) : avoids U ns = true ↔ ∀ x ∈ ns, x ∉ U := by
  simp [avoids, List.contains_eq_mem]

theorem avoids_append (U a b : List String) : avoids U (a ++ b) = (avoids U a && avoids U b) := by
  simp [avoids, List.all_append]

theorem avoids_nil (U : List String) : avoids U [] = true := rfl

theorem avoids_app {U a b : List String} (h : avoids U (a ++ b) = true) : avoids U a = true ∧ avoids U b = true := by
  rwa [avoids_append, Bool.and_eq_true] at h

theorem avoids_cons {U : List String} {x : String} {b : List String} (h : avoids U (x :: b) = true) :
    x ∉ U ∧ avoids U b = true := by
  simpa [avoids, List.contains_eq_mem] using h

theorem avoids_sub (U U' ns : List String) (hs : ∀ x ∈ U', x ∈ U) (h : avoids U ns = true) : avoids U' ns = true := by
  rw [avoids_iff] at h ⊢
  exact fun x hx hx' => h x hx (hs x hx')

theorem avoids_sub_names (U a b : List String) (hs : ∀ x ∈ a, x ∈ b) (h : avoids U b = true) : avoids U a = true := by
  rw [avoids_iff] at h ⊢
  exact fun x hx => h x (hs x hx)

theorem minus_sub (U ns : List String) : ∀ x ∈ minus U ns, x ∈ U := fun x hx => ((mem_minus U ns x).1 hx).1

theorem minus_sub_minus (U U' ns : List String) (hs : ∀ x ∈ U', x ∈ U) : ∀ x ∈ minus U' ns, x ∈ minus U ns := by
  intro x hx
  rw [mem_minus] at hx ⊢
  exact ⟨hs x hx.1, hx.2⟩

theorem minus_of_avoids (U ns : List String) (h : avoids U ns = true) : minus U ns = U := by
  rw [avoids_iff] at h
  simp only [minus, List.filter_eq_self, List.contains_eq_mem]
  intro x hx
  simpa using fun hn => h x hn hx

theorem hide_del_cons (σ : Store) (x : String) (r : List String) :
    Store.hide (Store.del σ x) r = Store.hide σ (x :: r) := by
  simp only [hide_eq, del_eq, List.filter_filter]
  apply List.filter_congr
  intro p _
  by_cases h : p.1 = x <;> simp [h]

theorem hide_set_cons (σ : Store) (x : String) (v : Val) (r : List String) :
    Store.hide (Store.set σ x v) r = (if x ∈ r then [] else [(x, v)]) ++ Store.hide σ (x :: r) := by
  by_cases hx : x ∈ r
  · rw [set_eq, hide_cons_in _ _ _ (by simpa using hx), hide_del_cons]; simp [hx]
  · rw [set_eq, hide_cons_notin _ _ _ (by simpa using hx), hide_del_cons]; simp [hx]

/-- what `loopvar_scope_restore` leaves depends on the store only outside the restored names -/
theorem restore_congr (saved : Store) (L : List String) (s s' : Store) (h : Store.hide s L = Store.hide s' L) :
    Store.restore s saved L = Store.restore s' saved L := by
  induction L generalizing s s' with
  | nil => simpa [hide_nil, Store.restore] using h
  | cons x r ih =>
    apply ih
    cases Store.get saved x with
    | none => simp only [hide_del_cons, h]
    | some v => simp only [hide_set_cons, h]

/-- names hidden inside the comprehension make no difference once the loop variables are restored -/
theorem restore_hide_sub (saved s : Store) (L U' : List String) (hs : ∀ x ∈ U', x ∈ L) :
    Store.restore (Store.hide s U') saved L = Store.restore s saved L := by
  apply restore_congr
  simp only [hide_eq, List.filter_filter]
  apply List.filter_congr
  intro p _
  by_cases h : p.1 ∈ L
  · simp [h]
  · have : p.1 ∉ U' := fun hu => h (hs _ hu)
    simp [h, this]

/-- an inner comprehension whose loop variables are not among the hidden names: restoring commutes with hiding -/
theorem restore_hide_comm (U : List String) (saved : Store) (L : List String) (s : Store) (h : avoids U L = true) :
    Store.restore (Store.hide s U) (Store.hide saved U) L = Store.hide (Store.restore s saved L) U := by
  induction L generalizing s with
  | nil => rfl
  | cons x r ih =>
    have h := avoids_cons h
    simp only [Store.restore, get_hide U x h.1]
    cases Store.get saved x with
    | none => simp only [hide_del]; exact ih _ h.2
    | some v => simp only [hide_set_notin _ _ _ _ h.1]; exact ih _ h.2

def mapR {β : Type} (f : β → β) (r : R W β) : R W β :=
  match r with
  | (.ok a, w) => (.ok (f a), w)
  | (.error e, w) => (.error e, w)

def vs {α : Type} (h : Store → Store) : α × Store → α × Store := fun a => (a.1, h a.2)

@[simp] theorem mapR_ok {β} (f : β → β) (a : β) (w : W) : mapR f ((.ok a, w) : R W β) = (.ok (f a), w) := rfl
@[simp] theorem mapR_err {β} (f : β → β) (e : Exc) (w : W) : mapR f ((.error e, w) : R W β) = (.error e, w) := rfl

theorem mapR_id {β} (f : β → β) (hf : ∀ a, f a = a) (r : R W β) : mapR f r = r := by
  rcases r with ⟨(e | a), w⟩ <;> simp [hf]

theorem bind_mapR {α β} {f : α → α} {g : β → β} {r' r : R W α} {k' k : α → W → R W β}
    (hr : r' = mapR f r) (hk : ∀ a w, k' (f a) w = mapR g (k a w)) : bind r' k' = mapR g (bind r k) := by
  subst hr
  rcases r with ⟨(e | a), w⟩
  · rfl
  · exact hk a w

theorem ite_mapR {β} {c : Prop} [Decidable c] {g : β → β} {a a' b b' : R W β} (h1 : a' = mapR g a) (h2 : b' = mapR g b) :
    (if c then a' else b') = mapR g (if c then a else b) := by
  split <;> assumption

theorem bind_mapR_plain {α β} {g : β → β} {r : R W α} {k' k : α → W → R W β}
    (hk : ∀ a w, k' a w = mapR g (k a w)) : bind r k' = mapR g (bind r k) := by
  rcases r with ⟨(e | a), w⟩
  · rfl
  · exact hk a w

theorem mem_append_imp {x : String} {a a' b b' : List String} (ha : x ∈ a → x ∈ a') (hb : x ∈ b → x ∈ b')
    (h : x ∈ a ++ b) : x ∈ a' ++ b' :=
  (List.mem_append.1 h).elim (fun h => List.mem_append_left _ (ha h)) fun h => List.mem_append_right _ (hb h)

mutual
theorem names_sub_vars : ∀ (t : Target) (x : String), x ∈ t.names → x ∈ t.vars
  | .name y, x, h => h
  | .sub _ _, x, h => nomatch h
  | .attr _ _, x, h => nomatch h
  | .tup _ b s a, x, h => mem_append_imp (namesL_sub_vars b x) (mem_append_imp id (namesL_sub_vars a x)) h
theorem namesL_sub_vars : ∀ (ts : List Target) (x : String), x ∈ Target.namesL ts → x ∈ varsTargets ts
  | [], x, h => nomatch h
  | t :: ts, x, h => mem_append_imp (names_sub_vars t x) (namesL_sub_vars ts x) h
end

mutual
theorem exprVars_sub_vars : ∀ (t : Target) (x : String), x ∈ t.exprVars → x ∈ t.vars
  | .name y, x, h => nomatch h
  | .sub _ _, x, h => h
  | .attr _ _, x, h => h
  | .tup _ b s a, x, h =>
    mem_append_imp (exprVarsL_sub_vars b x) (fun h => List.mem_append_right _ (exprVarsL_sub_vars a x h)) h
theorem exprVarsL_sub_vars : ∀ (ts : List Target) (x : String), x ∈ exprVarsL ts → x ∈ varsTargets ts
  | [], x, h => nomatch h
  | t :: ts, x, h => mem_append_imp (exprVars_sub_vars t x) (exprVarsL_sub_vars ts x) h
end

theorem gensNames_sub (gs : List Gen) (x : String) (h : x ∈ gensNames gs) : x ∈ varsGens gs := by
  induction gs with
  | nil => cases h
  | cons g gs ih =>
    obtain ⟨t, it, ifs⟩ := g
    exact mem_append_imp (names_sub_vars t x) (fun h => List.mem_append_right _ (List.mem_append_right _ (ih h))) h

theorem avoids_loop_names {U : List String} {t : Target} {gs : List Gen} (ht : avoids U t.vars = true)
    (hgs : avoids U (varsGens gs) = true) : avoids U (t.names ++ gensNames gs) = true := by
  rw [avoids_append, Bool.and_eq_true]
  exact ⟨avoids_sub_names _ _ _ (names_sub_vars t) ht, avoids_sub_names _ _ _ (gensNames_sub gs) hgs⟩

theorem iterM_hide (U : List String) (body : Val → Store → W → R W (List Item × Store))
    (hb : ∀ v σ w, body v (Store.hide σ U) w = mapR (vs fun s => Store.hide s U) (body v σ w))
    (vals : List Val) (σ : Store) (w : W) :
    iterM body vals (Store.hide σ U) w = mapR (vs fun s => Store.hide s U) (iterM body vals σ w) := by
  induction vals generalizing σ w with
  | nil => rfl
  | cons v vals ih => exact bind_mapR (hb v σ w) fun a w => bind_mapR (ih a.2 w) fun r w => rfl

theorem genStep_hide (U : List String) (asg : Val → Store → W → R W Store) (conds : Store → W → R W (Bool × Store))
    (inner : Store → W → R W (List Item × Store))
    (ha : ∀ v σ w, asg v (Store.hide σ U) w = mapR (fun s => Store.hide s U) (asg v σ w))
    (hc : ∀ σ w, conds (Store.hide σ U) w = mapR (vs fun s => Store.hide s U) (conds σ w))
    (hi : ∀ σ w, inner (Store.hide σ U) w = mapR (vs fun s => Store.hide s U) (inner σ w))
    (vals : List Val) (σ : Store) (w : W) :
    genStep asg conds inner vals (Store.hide σ U) w = mapR (vs fun s => Store.hide s U) (genStep asg conds inner vals σ w) := by
  unfold genStep
  refine iterM_hide U _ (fun v σ w => bind_mapR (ha v σ w) fun σ1 w => bind_mapR (hc σ1 w) fun c w => ?_) vals σ w
  simp only [vs]
  exact ite_mapR (hi _ _) rfl

/-! ### the two runs stay related: Python's store = pyscript's store minus some still-unbound loop variables -/

def Hid (U : List String) (σr σc : Store) : Prop := ∃ U', (∀ x ∈ U', x ∈ U) ∧ σr = Store.hide σc U'

def RelR {α : Type} (U : List String) (rr rc : R W (α × Store)) : Prop :=
  match rr, rc with
  | (.ok a, w), (.ok b, w') => a.1 = b.1 ∧ Hid U a.2 b.2 ∧ w = w'
  | (.error e, w), (.error e', w') => e = e' ∧ w = w'
  | _, _ => False

theorem hid_nil (sr sc : Store) (h : Hid [] sr sc) : sr = sc := by
  obtain ⟨U', hU', rfl⟩ := h
  have : U' = [] := List.eq_nil_iff_forall_not_mem.2 fun x hx => by simpa using hU' x hx
  subst this
  exact hide_nil _

theorem hid_mono (U V : List String) (hs : ∀ x ∈ U, x ∈ V) (sr sc : Store) (h : Hid U sr sc) : Hid V sr sc := by
  obtain ⟨U', hU', rfl⟩ := h
  exact ⟨U', fun x hx => hs x (hU' x hx), rfl⟩

theorem rel_refl {α} (U : List String) (r : R W (α × Store)) : RelR U r r := by
  rcases r with ⟨(e | a), w⟩
  · exact ⟨rfl, rfl⟩
  · exact ⟨rfl, ⟨[], by simp, (hide_nil _).symm⟩, rfl⟩

theorem rel_of_hide {α} {U : List String} {f : Store → W → R W (α × Store)}
    (hf : ∀ U', (∀ x ∈ U', x ∈ U) → ∀ σ w, f (Store.hide σ U') w = mapR (vs fun s => Store.hide s U') (f σ w))
    (sr sc : Store) (w : W) (h : Hid U sr sc) : RelR U (f sr w) (f sc w) := by
  obtain ⟨U', hU', rfl⟩ := h
  rw [hf U' hU']
  rcases f sc w with ⟨(e | a), w'⟩
  · exact ⟨rfl, rfl⟩
  · exact ⟨rfl, ⟨U', hU', rfl⟩, rfl⟩

theorem rel_mono {α} (U V : List String) (hs : ∀ x ∈ U, x ∈ V) (rr rc : R W (α × Store)) (h : RelR U rr rc) :
    RelR V rr rc := by
  rcases rr with ⟨(e | a), w⟩ <;> rcases rc with ⟨(e' | b), w'⟩ <;> simp only [RelR] at h ⊢
  · exact h
  · exact ⟨h.1, hid_mono U V hs _ _ h.2.1, h.2.2⟩

theorem rel_bind {α β} (U V : List String) (rr rc : R W (α × Store)) (k : α × Store → W → R W (β × Store))
    (h : RelR U rr rc) (hk : ∀ a sr sc w, Hid U sr sc → RelR V (k (a, sr) w) (k (a, sc) w)) :
    RelR V (bind rr k) (bind rc k) := by
  rcases rr with ⟨(e | a), w⟩ <;> rcases rc with ⟨(e' | b), w'⟩ <;> simp only [RelR] at h
  · obtain ⟨rfl, rfl⟩ := h
    exact ⟨rfl, rfl⟩
  · obtain ⟨h1, h2, rfl⟩ := h
    obtain ⟨a1, a2⟩ := a
    obtain ⟨b1, b2⟩ := b
    simp only at h1 h2
    subst h1
    exact hk a1 a2 b2 w h2

theorem rel_bind_st {β} (U V U' : List String) (hs : ∀ x ∈ U', x ∈ U) (rc : R W Store) (k : Store → W → R W (β × Store))
    (hk : ∀ sr sc w, Hid U sr sc → RelR V (k sr w) (k sc w)) :
    RelR V (bind (mapR (fun s => Store.hide s U') rc) k) (bind rc k) := by
  rcases rc with ⟨(e | a), w⟩
  · exact ⟨rfl, rfl⟩
  · exact hk _ _ w ⟨U', hs, rfl⟩

theorem rel_bind_plain {α β} (V : List String) (r : R W α) (k k' : α → W → R W (β × Store))
    (hk : ∀ a w, RelR V (k a w) (k' a w)) : RelR V (bind r k) (bind r k') := by
  rcases r with ⟨(e | a), w⟩
  · exact ⟨rfl, rfl⟩
  · exact hk a w

theorem iterM_rel (U : List String) (body : Val → Store → W → R W (List Item × Store))
    (hb : ∀ v sr sc w, Hid U sr sc → RelR U (body v sr w) (body v sc w))
    (vals : List Val) (sr sc : Store) (w : W) (h : Hid U sr sc) : RelR U (iterM body vals sr w) (iterM body vals sc w) := by
  induction vals generalizing sr sc w with
  | nil => exact ⟨rfl, h, rfl⟩
  | cons v vals ih =>
    exact rel_bind U U _ _ _ (hb v sr sc w h) fun a sr sc w h =>
      rel_bind U U _ _ _ (ih sr sc w h) fun r sr sc w h => ⟨rfl, h, rfl⟩

/-- one generator: the target's names `nt` leave the set of possibly-unbound names for its conditions and for the inner
generators; the next pass of this generator starts again from (a subset of) `U` -/
theorem genStep_rel (U nt : List String) (asg : Val → Store → W → R W Store) (conds : Store → W → R W (Bool × Store))
    (inner : Store → W → R W (List Item × Store))
    (ha : ∀ v sc w U', (∀ x ∈ U', x ∈ U) → asg v (Store.hide sc U') w = mapR (fun s => Store.hide s (minus U' nt)) (asg v sc w))
    (hc : ∀ sr sc w, Hid (minus U nt) sr sc → RelR (minus U nt) (conds sr w) (conds sc w))
    (hi : ∀ sr sc w, Hid (minus U nt) sr sc → RelR (minus U nt) (inner sr w) (inner sc w))
    (vals : List Val) (sr sc : Store) (w : W) (h : Hid U sr sc) :
    RelR U (genStep asg conds inner vals sr w) (genStep asg conds inner vals sc w) := by
  unfold genStep
  refine iterM_rel U _ (fun v sr sc w h => ?_) vals sr sc w h
  obtain ⟨U', hU', rfl⟩ := h
  rw [ha v sc w U' hU']
  refine rel_mono (minus U nt) U (minus_sub U nt) _ _ ?_
  refine rel_bind_st (minus U nt) (minus U nt) _ (minus_sub_minus U U' nt hU') _ _ fun sr sc w h => ?_
  refine rel_bind (minus U nt) (minus U nt) _ _ _ (hc sr sc w h) fun c sr sc w h => ?_
  simp only
  split
  · exact hi sr sc w h
  · exact ⟨rfl, h, rfl⟩

/-- after the loops the loop variables are restored: what was hidden makes no difference -/
theorem bind_rel_restore {α} (L : List String) (rr rc : R W (List Item × Store)) (K : List Item × Store → W → R W α)
    (hK : ∀ items s U' w, (∀ x ∈ U', x ∈ L) → K (items, Store.hide s U') w = K (items, s) w)
    (h : RelR L rr rc) : bind rr K = bind rc K := by
  rcases rr with ⟨(e | a), w⟩ <;> rcases rc with ⟨(e' | b), w'⟩ <;> simp only [RelR] at h
  · obtain ⟨rfl, rfl⟩ := h; rfl
  · obtain ⟨h1, ⟨U', hU', h2⟩, rfl⟩ := h
    obtain ⟨a1, a2⟩ := a
    obtain ⟨b1, b2⟩ := b
    simp only at h1 h2
    subst h1; subst h2
    exact hK a1 b2 U' w hU'

section shapes
variable (cfg : Cfg) (P : Prims W)

theorem eval_name (x : String) (σ : Store) (w : W) :
    eval cfg P (.name x) σ w = match σ.get x with
      | some v => (.ok (v, σ), w)
      | none => (.error .nameError, w) := rfl

theorem eval_compare_once (h : cfg.compareOnce = true) (l : Expr) (rest : List CmpArm) (σ : Store) (w : W) :
    eval cfg P (.compare l rest) σ w = bind (eval cfg P l σ w) fun a w => chainOnce cfg P a.1 rest a.2 w := by
  cases rest with
  | nil => exact if_pos h
  | cons arm rest => cases arm; exact if_pos h

theorem eval_call_argsFirst (h : cfg.callArgsFirst = true) (f : Expr) (args : List Elt) (kws : List Kw) (σ : Store) (w : W) :
    eval cfg P (.call f args kws) σ w =
      bind (eval cfg P f σ w) fun fv w => bind (evalElts cfg P args fv.2 w) fun as w =>
      bind (evalKws cfg P [] kws as.2 w) fun ks w => bind (P.call fv.1 as.1 ks.1 w) fun r w => (.ok (r, ks.2), w) :=
  bind_congr rfl fun fv w => if_pos h

theorem evalPairs_keyFirst (h : cfg.dictKeyFirst = true) (k v : Expr) (r : List DictArm) (σ : Store) (w : W) :
    evalPairs cfg P (.kv k v :: r) σ w =
      bind (eval cfg P k σ w) fun a w => bind (eval cfg P v a.2 w) fun b w =>
      bind (evalPairs cfg P r b.2 w) fun ps w => (.ok ((some a.1, b.1) :: ps.1, ps.2), w) :=
  if_pos h

theorem evalKws_named_group (h : cfg.kwGroupMerge = true) (acc : List (String × Val)) (k : String) (e : Expr) (ks : List Kw)
    (σ : Store) (w : W) :
    evalKws cfg P acc (.named k e :: ks) σ w =
      bind (eval cfg P e σ w) fun a w =>
      match kwMerge cfg acc k a.1 with
      | .ok acc' => evalKws cfg P acc' ks a.2 w
      | .error ex => drainGroup cfg P ex ks a.2 w :=
  bind_congr rfl fun a w => by
    cases kwMerge cfg acc k a.1 with
    | ok acc' => rfl
    | error ex => exact if_pos h

/-- what `assign` does with the items `vals` of a tuple target's right-hand side, over arbitrary evaluators `aB` / `aA` for
the targets before and after the star -/
def unpack (aB aA : List Val → Store → W → R W Store) (mk : List Val → W → R W Val) (nb na : Nat)
    (star : Option String) (vals : List Val) (σ : Store) (w : W) : R W Store :=
  match star with
  | none =>
    if vals.length ≠ nb + na then (.error .valueError, w)
    else bind (aB (vals.take nb) σ w) fun σ1 w => aA (vals.drop nb) σ1 w
  | some x =>
    if vals.length < nb + na then (.error .valueError, w)
    else
      bind (aB (vals.take nb) σ w) fun σ1 w =>
      bind (mk ((vals.drop nb).take (vals.length - (nb + na))) w) fun lst w =>
      aA (vals.drop (nb + (vals.length - (nb + na)))) (σ1.set x lst) w

theorem assign_tup (isList : Bool) (before : List Target) (star : Option String) (after : List Target) (v : Val)
    (σ : Store) (w : W) :
    assign cfg P (.tup isList before star after) v σ w =
      if isList && !cfg.listTarget then (.error .notImplemented, w)
      else bind (P.iter v w) fun vals w =>
        unpack (assignList cfg P before) (assignList cfg P after) (P.mkseq 0) before.length after.length star vals σ w := by
  cases star <;> rfl

theorem unpack_congr {aB aB' aA aA' : List Val → Store → W → R W Store} (hB : ∀ vs σ w, aB vs σ w = aB' vs σ w)
    (hA : ∀ vs σ w, aA vs σ w = aA' vs σ w) (mk : List Val → W → R W Val) (nb na : Nat) (star : Option String)
    (vals : List Val) (σ : Store) (w : W) :
    unpack aB aA mk nb na star vals σ w = unpack aB' aA' mk nb na star vals σ w := by
  have h1 : aB = aB' := funext fun vs => funext fun σ => funext fun w => hB vs σ w
  have h2 : aA = aA' := funext fun vs => funext fun σ => funext fun w => hA vs σ w
  rw [h1, h2]

theorem take_drop_lengths {α} (l : List α) {nb na : Nat} (h : nb + na ≤ l.length) (k : Nat) (hk : k ≤ l.length - (nb + na)) :
    nb ≤ (l.take nb).length ∧ na ≤ (l.drop (nb + k)).length := by
  rw [List.length_take, List.length_drop]
  have hk : k + (nb + na) ≤ l.length := Nat.add_le_of_le_sub h hk
  exact ⟨Nat.le_min.2 ⟨Nat.le_refl _, Nat.le_trans (Nat.le_add_right _ _) h⟩,
    Nat.le_sub_of_add_le (by rwa [Nat.add_comm na, Nat.add_assoc, Nat.add_left_comm])⟩

/-- unpacking commutes with store maps when its parts do: `f0` before, `f1` after the targets before the star, `f1'` once
the starred name is bound, `f2` at the end; the targets are only run on at least as many values as they are -/
theorem unpack_mapR {aB aA : List Val → Store → W → R W Store} {mk : List Val → W → R W Val} {nb na : Nat}
    {star : Option String} {f0 f1 f1' f2 : Store → Store}
    (hB : ∀ vs σ w, nb ≤ vs.length → aB vs (f0 σ) w = mapR f1 (aB vs σ w))
    (hN : star = none → f1' = f1) (hS : ∀ x, star = some x → ∀ σ v, (f1 σ).set x v = f1' (σ.set x v))
    (hA : ∀ vs σ w, na ≤ vs.length → aA vs (f1' σ) w = mapR f2 (aA vs σ w)) (vals : List Val) (σ : Store) (w : W) :
    unpack aB aA mk nb na star vals (f0 σ) w = mapR f2 (unpack aB aA mk nb na star vals σ w) := by
  cases star with
  | none =>
    obtain rfl := hN rfl
    simp only [unpack]
    split
    · rfl
    · rename_i hl
      have hn := take_drop_lengths vals (Nat.le_of_eq (Decidable.not_not.1 hl).symm) 0 (Nat.zero_le _)
      exact bind_mapR (hB _ σ w hn.1) fun σ1 w => hA _ σ1 w hn.2
  | some x =>
    simp only [unpack]
    split
    · rfl
    · rename_i hl
      have hn := take_drop_lengths vals (Nat.le_of_not_lt hl) _ (Nat.le_refl _)
      refine bind_mapR (hB _ σ w hn.1) fun σ1 w => bind_mapR_plain fun lst w => ?_
      rw [hS x rfl]
      exact hA _ _ w hn.2

/-- what `ast_listcomp` / `ast_setcomp` / `ast_dictcomp` share: everything but the innermost `item` and the builder `mk` of the
result -/
def compWith (item : Store → W → R W (List Item × Store)) (mk : List Item → W → R W Val) (t : Target) (it : Expr)
    (ifs : List Expr) (gs : List Gen) (σ : Store) (w : W) : R W (Val × Store) :=
  bind (eval cfg P it σ w) fun a w => bind (P.iter a.1 w) fun vals w =>
  bind (genStep (fun v σ w => assign cfg P t v σ w) (fun σ w => evalConds cfg P ifs σ w)
          (fun σ w => compGens cfg P item gs σ w)
          vals (if cfg.compFresh then a.2.hide (t.names ++ gensNames gs) else a.2) w) fun r w =>
  bind (mk r.1 w) fun v w => (.ok (v, Store.restore r.2 σ (t.names ++ gensNames gs)), w)

theorem eval_comp (isSet : Bool) (elt : Expr) (t : Target) (it : Expr) (ifs : List Expr) (gs : List Gen) (σ : Store) (w : W) :
    eval cfg P (.comp isSet elt (.mk t it ifs :: gs)) σ w =
      compWith cfg P (fun σ w => bind (eval cfg P elt σ w) fun e w => (.ok ([(none, e.1)], e.2), w))
        (fun items w => P.mkseq (if isSet then 2 else 0) (items.map (·.2)) w) t it ifs gs σ w := rfl

theorem eval_dictcomp (k v : Expr) (t : Target) (it : Expr) (ifs : List Expr) (gs : List Gen) (σ : Store) (w : W) :
    eval cfg P (.dictcomp k v (.mk t it ifs :: gs)) σ w =
      compWith cfg P (fun σ w => bind (eval cfg P k σ w) fun kv w => bind (eval cfg P v kv.2 w) fun e w =>
          (.ok ([(some kv.1, e.1)], e.2), w))
        (fun items w => P.mkdict items w) t it ifs gs σ w := rfl

theorem compWith_fresh (h : cfg.compFresh = true) (item : Store → W → R W (List Item × Store)) (mk : List Item → W → R W Val)
    (t : Target) (it : Expr) (ifs : List Expr) (gs : List Gen) (σ : Store) (w : W) :
    compWith cfg P item mk t it ifs gs σ w =
      bind (eval cfg P it σ w) fun a w => bind (P.iter a.1 w) fun vals w =>
      bind (genStep (fun v σ w => assign cfg P t v σ w) (fun σ w => evalConds cfg P ifs σ w)
              (fun σ w => compGens cfg P item gs σ w) vals (a.2.hide (t.names ++ gensNames gs)) w) fun r w =>
      bind (mk r.1 w) fun v w => (.ok (v, Store.restore r.2 σ (t.names ++ gensNames gs)), w) :=
  bind_congr rfl fun a w => bind_congr rfl fun vals w => by rw [if_pos h]

end shapes

section hide
variable (P : Prims W) (py : Cfg) (hp : AllOn py) (U : List String)
include hp

theorem compWith_hide (item : Store → W → R W (List Item × Store)) (mk : List Item → W → R W Val) (t : Target) (it : Expr)
    (ifs : List Expr) (gs : List Gen)
    (hit : ∀ σ w, eval py P it (Store.hide σ U) w = mapR (vs fun s => Store.hide s U) (eval py P it σ w))
    (ht : ∀ v σ w, assign py P t v (Store.hide σ U) w = mapR (fun s => Store.hide s U) (assign py P t v σ w))
    (hifs : ∀ σ w, evalConds py P ifs (Store.hide σ U) w = mapR (vs fun s => Store.hide s U) (evalConds py P ifs σ w))
    (hgs : ∀ σ w, compGens py P item gs (Store.hide σ U) w = mapR (vs fun s => Store.hide s U) (compGens py P item gs σ w))
    (hL : avoids U (t.names ++ gensNames gs) = true) (σ : Store) (w : W) :
    compWith py P item mk t it ifs gs (Store.hide σ U) w =
      mapR (vs fun s => Store.hide s U) (compWith py P item mk t it ifs gs σ w) := by
  rw [compWith_fresh py P hp.compFresh, compWith_fresh py P hp.compFresh]
  refine bind_mapR (hit σ w) fun a w => bind_mapR_plain fun vals w => ?_
  simp only [vs]
  rw [hide_hide_comm, genStep_hide U _ _ _ ht hifs hgs]
  refine bind_mapR rfl fun r w => bind_mapR_plain fun v w => ?_
  simp only [vs]
  rw [restore_hide_comm U σ _ r.2 hL]
  rfl

mutual
theorem eval_hide : ∀ (e : Expr) (σ : Store) (w : W), avoids U e.vars = true →
    eval py P e (Store.hide σ U) w = mapR (vs fun s => Store.hide s U) (eval py P e σ w)
  | .const _, σ, w, _ => rfl
  | .leaf i, σ, w, _ => bind_mapR_plain fun v w => rfl
  | .name x, σ, w, h => by
    rw [eval_name, eval_name, get_hide U x (avoids_cons h).1]
    cases Store.get σ x <;> rfl
  | .binop op l r, σ, w, h =>
    have h := avoids_app h
    bind_mapR (eval_hide l σ w h.1) fun a w => bind_mapR (eval_hide r a.2 w h.2) fun b w =>
      bind_mapR_plain fun v w => rfl
  | .unary op e, σ, w, h =>
    bind_mapR (eval_hide e σ w h) fun a w => ite_mapR rfl (ite_mapR rfl (bind_mapR_plain fun v w => rfl))
  | .boolop isAnd es, σ, w, h => evalBool_hide isAnd _ es σ w h
  | .compare l rest, σ, w, h => by
    have h := avoids_app h
    rw [eval_compare_once py P hp.compareOnce, eval_compare_once py P hp.compareOnce]
    exact bind_mapR (eval_hide l σ w h.1) fun a w => chainOnce_hide a.1 rest a.2 w h.2
  | .ifexp c t e, σ, w, h =>
    have h := avoids_app h
    have h2 := avoids_app h.2
    bind_mapR (eval_hide c σ w h.1) fun a w => ite_mapR (eval_hide t a.2 w h2.1) (eval_hide e a.2 w h2.2)
  | .subscript v i, σ, w, h =>
    have h := avoids_app h
    bind_mapR (eval_hide v σ w h.1) fun a w => bind_mapR (eval_hide i a.2 w h.2) fun b w =>
      bind_mapR_plain fun v w => rfl
  | .slice lo hi st, σ, w, h =>
    have h := avoids_app h
    have h2 := avoids_app h.2
    bind_mapR (evalOpt_hide lo σ w h.1) fun a w => bind_mapR (evalOpt_hide hi a.2 w h2.1) fun b w =>
      bind_mapR (evalOpt_hide st b.2 w h2.2) fun c w => bind_mapR_plain fun v w => rfl
  | .attr v a, σ, w, h => bind_mapR (eval_hide v σ w h) fun x w => bind_mapR_plain fun v w => rfl
  | .call f args kws, σ, w, h => by
    have h := avoids_app h
    have h2 := avoids_app h.2
    rw [eval_call_argsFirst py P hp.callArgsFirst, eval_call_argsFirst py P hp.callArgsFirst]
    exact bind_mapR (eval_hide f σ w h.1) fun fv w => bind_mapR (evalElts_hide args fv.2 w h2.1) fun as w =>
      bind_mapR (evalKws_hide [] kws as.2 w h2.2) fun ks w => bind_mapR_plain fun v w => rfl
  | .seq kind es, σ, w, h => bind_mapR (evalElts_hide es σ w h) fun vs' w => bind_mapR_plain fun v w => rfl
  | .dict kvs, σ, w, h => bind_mapR (evalPairs_hide kvs σ w h) fun ps w => bind_mapR_plain fun v w => rfl
  | .fstr parts, σ, w, h => bind_mapR (evalParts_hide parts σ w h) fun ps w => bind_mapR_plain fun v w => rfl
  | .named x e, σ, w, h => by
    refine bind_mapR (eval_hide e σ w (avoids_cons h).2) fun a w => ?_
    simp only [vs, hide_set_notin _ _ _ _ (avoids_cons h).1]
    rfl
  | .comp _ _ [], σ, w, _ => rfl
  | .comp isSet elt (.mk t it ifs :: gs), σ, w, h => by
    obtain ⟨he, hg⟩ := avoids_app h
    obtain ⟨ht, hg⟩ := avoids_app hg
    obtain ⟨hit, hg⟩ := avoids_app hg
    obtain ⟨hifs, hgs⟩ := avoids_app hg
    rw [eval_comp, eval_comp]
    exact compWith_hide P py hp U _ _ t it ifs gs (fun σ w => eval_hide it σ w hit) (fun v σ w => assign_hide t v σ w ht)
      (fun σ w => evalConds_hide ifs σ w hifs)
      (fun σ w => compGens_hide gs _ σ w hgs fun σ w => bind_mapR (eval_hide elt σ w he) fun e w => rfl)
      (avoids_loop_names ht hgs) σ w
  | .dictcomp _ _ [], σ, w, _ => rfl
  | .dictcomp k v (.mk t it ifs :: gs), σ, w, h => by
    obtain ⟨hk, hg⟩ := avoids_app h
    obtain ⟨hv, hg⟩ := avoids_app hg
    obtain ⟨ht, hg⟩ := avoids_app hg
    obtain ⟨hit, hg⟩ := avoids_app hg
    obtain ⟨hifs, hgs⟩ := avoids_app hg
    rw [eval_dictcomp, eval_dictcomp]
    exact compWith_hide P py hp U _ _ t it ifs gs (fun σ w => eval_hide it σ w hit) (fun v σ w => assign_hide t v σ w ht)
      (fun σ w => evalConds_hide ifs σ w hifs)
      (fun σ w => compGens_hide gs _ σ w hgs fun σ w =>
        bind_mapR (eval_hide k σ w hk) fun kv w => bind_mapR (eval_hide v kv.2 w hv) fun e w => rfl)
      (avoids_loop_names ht hgs) σ w

theorem evalOpt_hide : ∀ (o : Option Expr) (σ : Store) (w : W), avoids U (varsOpt o) = true →
    evalOpt py P o (Store.hide σ U) w = mapR (vs fun s => Store.hide s U) (evalOpt py P o σ w)
  | none, _, _, _ => rfl
  | some e, σ, w, h => bind_mapR (eval_hide e σ w h) fun a w => rfl

theorem evalBool_hide (isAnd : Bool) : ∀ (last : Val) (es : List Expr) (σ : Store) (w : W),
    avoids U (varsList es) = true →
    evalBool py P isAnd last es (Store.hide σ U) w = mapR (vs fun s => Store.hide s U) (evalBool py P isAnd last es σ w)
  | _, [], _, _, _ => rfl
  | last, e :: es, σ, w, h =>
    have h := avoids_app h
    bind_mapR (eval_hide e σ w h.1) fun a w => ite_mapR (evalBool_hide isAnd a.1 es a.2 w h.2) rfl

theorem chainOnce_hide : ∀ (left : Val) (rest : List CmpArm) (σ : Store) (w : W), avoids U (varsArms rest) = true →
    chainOnce py P left rest (Store.hide σ U) w = mapR (vs fun s => Store.hide s U) (chainOnce py P left rest σ w)
  | _, [], _, _, _ => rfl
  | left, .mk op e :: rest, σ, w, h =>
    have h := avoids_app h
    bind_mapR (eval_hide e σ w h.1) fun b w => bind_mapR_plain fun t w =>
      ite_mapR (chainOnce_hide b.1 rest b.2 w h.2) rfl

theorem evalElts_hide : ∀ (es : List Elt) (σ : Store) (w : W), avoids U (varsElts es) = true →
    evalElts py P es (Store.hide σ U) w = mapR (vs fun s => Store.hide s U) (evalElts py P es σ w)
  | [], _, _, _ => rfl
  | .plain e :: es, σ, w, h =>
    have h := avoids_app h
    bind_mapR (eval_hide e σ w h.1) fun a w => bind_mapR (evalElts_hide es a.2 w h.2) fun r w => rfl
  | .star e :: es, σ, w, h =>
    have h := avoids_app h
    bind_mapR (eval_hide e σ w h.1) fun a w => bind_mapR_plain fun xs w =>
      bind_mapR (evalElts_hide es a.2 w h.2) fun r w => rfl

theorem drainGroup_hide : ∀ (ex : Exc) (ks : List Kw) (σ : Store) (w : W), avoids U (varsKws ks) = true →
    drainGroup py P ex ks (Store.hide σ U) w = mapR (vs fun s => Store.hide s U) (drainGroup py P ex ks σ w)
  | _, [], _, _, _ => rfl
  | ex, .named k e :: ks, σ, w, h =>
    have h := avoids_app h
    bind_mapR (eval_hide e σ w h.1) fun a w => drainGroup_hide ex ks a.2 w h.2
  | _, .splat e :: ks, _, _, _ => rfl

theorem evalKws_hide : ∀ (acc : List (String × Val)) (ks : List Kw) (σ : Store) (w : W), avoids U (varsKws ks) = true →
    evalKws py P acc ks (Store.hide σ U) w = mapR (vs fun s => Store.hide s U) (evalKws py P acc ks σ w)
  | _, [], _, _, _ => rfl
  | acc, .named k e :: ks, σ, w, h => by
    have h := avoids_app h
    rw [evalKws_named_group py P hp.kwGroupMerge, evalKws_named_group py P hp.kwGroupMerge]
    refine bind_mapR (eval_hide e σ w h.1) fun a w => ?_
    show (match kwMerge py acc k a.1 with | .ok acc' => _ | .error ex => _) = _
    cases kwMerge py acc k a.1 with
    | ok acc' => exact evalKws_hide acc' ks a.2 w h.2
    | error ex => exact drainGroup_hide ex ks a.2 w h.2
  | acc, .splat e :: ks, σ, w, h => by
    have h := avoids_app h
    refine bind_mapR (eval_hide e σ w h.1) fun a w => bind_mapR_plain fun items w => ?_
    show (match kwMergeAll py acc items with | .ok acc' => _ | .error ex => _) = _
    cases kwMergeAll py acc items with
    | ok acc' => exact evalKws_hide acc' ks a.2 w h.2
    | error ex => rfl

theorem evalPairs_hide : ∀ (kvs : List DictArm) (σ : Store) (w : W), avoids U (varsPairs kvs) = true →
    evalPairs py P kvs (Store.hide σ U) w = mapR (vs fun s => Store.hide s U) (evalPairs py P kvs σ w)
  | [], _, _, _ => rfl
  | .kv k v :: r, σ, w, h => by
    have h := avoids_app h
    have h2 := avoids_app h.2
    rw [evalPairs_keyFirst py P hp.dictKeyFirst, evalPairs_keyFirst py P hp.dictKeyFirst]
    exact bind_mapR (eval_hide k σ w h.1) fun a w => bind_mapR (eval_hide v a.2 w h2.1) fun b w =>
      bind_mapR (evalPairs_hide r b.2 w h2.2) fun ps w => rfl
  | .splat e :: r, σ, w, h =>
    have h := avoids_app h
    bind_mapR (eval_hide e σ w h.1) fun a w => bind_mapR (evalPairs_hide r a.2 w h.2) fun ps w => rfl

theorem evalParts_hide : ∀ (ps : List FPart) (σ : Store) (w : W), avoids U (varsParts ps) = true →
    evalParts py P ps (Store.hide σ U) w = mapR (vs fun s => Store.hide s U) (evalParts py P ps σ w)
  | [], _, _, _ => rfl
  | .lit k :: r, σ, w, h => bind_mapR (evalParts_hide r σ w h) fun vs' w => rfl
  | .fmt e conv spec :: r, σ, w, h =>
    have h := avoids_app h
    have h2 := avoids_app h.2
    bind_mapR (eval_hide e σ w h.1) fun a w => bind_mapR (evalOpt_hide spec a.2 w h2.1) fun s w =>
      bind_mapR_plain fun v w => bind_mapR (evalParts_hide r s.2 w h2.2) fun vs' w => rfl

theorem evalConds_hide : ∀ (cs : List Expr) (σ : Store) (w : W), avoids U (varsList cs) = true →
    evalConds py P cs (Store.hide σ U) w = mapR (vs fun s => Store.hide s U) (evalConds py P cs σ w)
  | [], _, _, _ => rfl
  | c :: cs, σ, w, h =>
    have h := avoids_app h
    bind_mapR (eval_hide c σ w h.1) fun a w => ite_mapR (evalConds_hide cs a.2 w h.2) rfl

theorem compGens_hide : ∀ (gs : List Gen) (item : Store → W → R W (List Item × Store)) (σ : Store) (w : W),
    avoids U (varsGens gs) = true →
    (∀ σ w, item (Store.hide σ U) w = mapR (vs fun s => Store.hide s U) (item σ w)) →
    compGens py P item gs (Store.hide σ U) w = mapR (vs fun s => Store.hide s U) (compGens py P item gs σ w)
  | [], item, σ, w, _, hi => hi σ w
  | .mk t it ifs :: gs, item, σ, w, h, hi =>
    have h := avoids_app h
    have h2 := avoids_app h.2
    have h3 := avoids_app h2.2
    bind_mapR (eval_hide it σ w h2.1) fun a w => bind_mapR_plain fun vals w =>
      genStep_hide U _ _ _ (fun v σ w => assign_hide t v σ w h.1) (fun σ w => evalConds_hide ifs σ w h3.1)
        (fun σ w => compGens_hide gs item σ w h3.2 hi) vals a.2 w

theorem assign_hide : ∀ (t : Target) (v : Val) (σ : Store) (w : W), avoids U t.vars = true →
    assign py P t v (Store.hide σ U) w = mapR (fun s => Store.hide s U) (assign py P t v σ w)
  | .name x, v, σ, w, h =>
    congrArg (fun s => ((Except.ok s : Except Exc Store), w)) (hide_set_notin σ U x v (avoids_cons h).1)
  | .sub e i, v, σ, w, h =>
    have h := avoids_app h
    bind_mapR (eval_hide e σ w h.1) fun a w => bind_mapR (eval_hide i a.2 w h.2) fun b w =>
      bind_mapR_plain fun _ w => rfl
  | .attr e a, v, σ, w, h => bind_mapR (eval_hide e σ w h) fun x w => bind_mapR_plain fun _ w => rfl
  | .tup isList before star after, v, σ, w, h => by
    obtain ⟨hb, hsa⟩ := avoids_app h
    obtain ⟨hs, ha⟩ := avoids_app hsa
    rw [assign_tup, assign_tup]
    refine ite_mapR rfl (bind_mapR_plain fun vals w => unpack_mapR (fun vs σ w _ => assignList_hide before vs σ w hb)
      (fun _ => rfl) (fun x hx σ v => ?_) (fun vs σ w _ => assignList_hide after vs σ w ha) vals σ w)
    subst hx
    exact hide_set_notin σ U x v (avoids_cons hs).1

theorem assignList_hide : ∀ (ts : List Target) (vs' : List Val) (σ : Store) (w : W), avoids U (varsTargets ts) = true →
    assignList py P ts vs' (Store.hide σ U) w = mapR (fun s => Store.hide s U) (assignList py P ts vs' σ w)
  | [], _, _, _, _ => rfl
  | _ :: _, [], _, _, _ => rfl
  | t :: ts, v :: vs', σ, w, h =>
    have h := avoids_app h
    bind_mapR (assign_hide t v σ w h.1) fun σ1 w => assignList_hide ts vs' σ1 w h.2
end

mutual
theorem assign_minus : ∀ (t : Target) (v : Val) (σ : Store) (w : W) (U : List String), avoids U t.exprVars = true →
    assign py P t v (Store.hide σ U) w = mapR (fun s => Store.hide s (minus U t.names)) (assign py P t v σ w)
  | .name x, v, σ, w, U, _ =>
    congrArg (fun s => ((Except.ok s : Except Exc Store), w)) (hide_set_minus σ U x v)
  | .sub e i, v, σ, w, U, h => by
    show _ = mapR (fun s => Store.hide s (minus U [])) _
    rw [minus_nil]
    exact assign_hide P py hp U (.sub e i) v σ w h
  | .attr e a, v, σ, w, U, h => by
    show _ = mapR (fun s => Store.hide s (minus U [])) _
    rw [minus_nil]
    exact assign_hide P py hp U (.attr e a) v σ w h
  | .tup isList before star after, v, σ, w, U, h => by
    obtain ⟨hb, ha⟩ := avoids_app h
    rw [assign_tup, assign_tup]
    show _ = mapR (fun s => Store.hide s (minus U (Target.namesL before ++ (_ ++ Target.namesL after)))) _
    simp only [← minus_minus]
    refine ite_mapR rfl (bind_mapR_plain fun vals w => unpack_mapR
      (fun vs σ w hl => assignList_minus before vs σ w U hb hl)
      (fun hs => by rw [hs, minus_nil]) (fun x hx σ v => by rw [hx, hide_set_minus])
      (fun vs σ w hl => assignList_minus after vs σ w _
        (avoids_sub _ _ _ (fun y hy => minus_sub _ _ y (minus_sub _ _ y hy)) ha) hl) vals σ w)
theorem assignList_minus : ∀ (ts : List Target) (vs' : List Val) (σ : Store) (w : W) (U : List String),
    avoids U (exprVarsL ts) = true → ts.length ≤ vs'.length →
    assignList py P ts vs' (Store.hide σ U) w =
      mapR (fun s => Store.hide s (minus U (Target.namesL ts))) (assignList py P ts vs' σ w)
  | [], _, σ, w, U, _, _ => by
    show (Except.ok (Store.hide σ U), w) = (Except.ok (Store.hide σ (minus U [])), w)
    rw [minus_nil]
  | _ :: _, [], _, _, _, _, hl => by simp at hl
  | t :: ts, v :: vs', σ, w, U, h, hl => by
    have h := avoids_app h
    refine bind_mapR (assign_minus t v σ w U h.1) fun σ1 w => ?_
    rw [assignList_minus ts vs' σ1 w (minus U t.names) (avoids_sub _ _ _ (minus_sub U _) h.2) (by simpa using hl),
      minus_minus]
    rfl
end

theorem eval_rel (U : List String) (e : Expr) (he : avoids U e.vars = true) (sr sc : Store) (w : W) (h : Hid U sr sc) :
    RelR U (eval py P e sr w) (eval py P e sc w) :=
  rel_of_hide (fun U' hU' σ w => eval_hide P py hp U' e σ w (avoids_sub U U' _ hU' he)) sr sc w h

theorem evalConds_rel (U : List String) (cs : List Expr) (he : avoids U (varsList cs) = true) (sr sc : Store) (w : W)
    (h : Hid U sr sc) : RelR U (evalConds py P cs sr w) (evalConds py P cs sc w) :=
  rel_of_hide (fun U' hU' σ w => evalConds_hide P py hp U' cs σ w (avoids_sub U U' _ hU' he)) sr sc w h

/-- the remaining generators of a comprehension, started with the names `U` possibly unbound on Python's side -/
theorem compGens_rel : ∀ (gs : List Gen) (item : Store → W → R W (List Item × Store)) (U : List String)
    (sr sc : Store) (w : W), earlyFree U gs = true → Hid U sr sc →
    (∀ sr sc w, Hid (minus U (gensNames gs)) sr sc → RelR (minus U (gensNames gs)) (item sr w) (item sc w)) →
    RelR U (compGens py P item gs sr w) (compGens py P item gs sc w) := by
  intro gs item
  induction gs with
  | nil =>
    intro U sr sc w _ h hi
    rw [show minus U (gensNames []) = U from minus_nil U] at hi
    exact hi sr sc w h
  | cons g gs ih =>
    intro U sr sc w hf h hi
    obtain ⟨t, it, ifs⟩ := g
    simp only [earlyFree, Bool.and_eq_true] at hf
    obtain ⟨⟨⟨hit, hte⟩, hifs⟩, hgs⟩ := hf
    rw [show minus U (gensNames (.mk t it ifs :: gs)) = minus (minus U t.names) (gensNames gs) from
      (minus_minus U _ _).symm] at hi
    refine rel_bind U U _ _ _ (eval_rel P py hp U it hit sr sc w h) fun a sr sc w h =>
      rel_bind_plain U _ _ _ fun vals w => ?_
    exact genStep_rel U t.names _ _ _ (fun v sc w U' hU' => assign_minus P py hp t v sc w U' (avoids_sub U U' _ hU' hte))
      (fun sr sc w h => evalConds_rel P py hp _ ifs hifs sr sc w h)
      (fun sr sc w h => ih (minus U t.names) sr sc w hgs h hi) vals sr sc w h

/-- **the first generator**: started from Python's fresh scope (all loop variables hidden) and from pyscript's table, the
loops produce the same items and the same world, and stores that differ only in loop variables -/
theorem genStep_top (t : Target) (ifs : List Expr) (gs : List Gen) (item : Store → W → R W (List Item × Store))
    (hf : compEarlyFree (.mk t it ifs :: gs) = true) (vals : List Val) (s : Store) (w : W) :
    RelR (t.names ++ gensNames gs)
      (genStep (fun v σ w => assign py P t v σ w) (fun σ w => evalConds py P ifs σ w)
        (fun σ w => compGens py P item gs σ w) vals (Store.hide s (t.names ++ gensNames gs)) w)
      (genStep (fun v σ w => assign py P t v σ w) (fun σ w => evalConds py P ifs σ w)
        (fun σ w => compGens py P item gs σ w) vals s w) := by
  simp only [compEarlyFree, Bool.and_eq_true] at hf
  obtain ⟨⟨hte, hifs⟩, hgs⟩ := hf
  refine genStep_rel _ t.names _ _ _ (fun v sc w U' hU' => assign_minus P py hp t v sc w U' (avoids_sub _ U' _ hU' hte))
    (fun sr sc w h => evalConds_rel P py hp _ ifs hifs sr sc w h)
    (fun sr sc w h => compGens_rel P py hp gs item _ sr sc w hgs h (by
      intro sr sc w h
      rw [minus_self_append] at h ⊢
      rw [hid_nil sr sc h]
      exact rel_refl _ _))
    vals _ s w ⟨_, fun x hx => hx, rfl⟩

/-- **fresh scope = enclosing table, once the loop variables are restored**: started from the table in which all loop
variables are hidden or from the table as it is, the loops of a comprehension followed by building the result (`mk`) and
`loopvar_scope_restore` give the same result -/
theorem loops_restore_fresh {it : Expr} (t : Target) (ifs : List Expr) (gs : List Gen)
    (item : Store → W → R W (List Item × Store)) (hf : compEarlyFree (.mk t it ifs :: gs) = true)
    (mk : List Item → W → R W Val) (vals : List Val) (s σ : Store) (w : W) :
    (bind (genStep (fun v σ w => assign py P t v σ w) (fun σ w => evalConds py P ifs σ w)
        (fun σ w => compGens py P item gs σ w) vals (Store.hide s (t.names ++ gensNames gs)) w) fun r w =>
      bind (mk r.1 w) fun v w => (.ok (v, Store.restore r.2 σ (t.names ++ gensNames gs)), w)) =
    bind (genStep (fun v σ w => assign py P t v σ w) (fun σ w => evalConds py P ifs σ w)
        (fun σ w => compGens py P item gs σ w) vals s w) fun r w =>
      bind (mk r.1 w) fun v w => (.ok (v, Store.restore r.2 σ (t.names ++ gensNames gs)), w) :=
  bind_rel_restore (t.names ++ gensNames gs) _ _ _
    (fun items s U' w hU' => by simp only [restore_hide_sub _ _ _ _ hU'])
    (genStep_top P py hp t ifs gs item hf vals s w)

end hide

end PsModel.C01
