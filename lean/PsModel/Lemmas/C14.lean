import PsModel.Lemmas.C14Move
/-! the invariants of the C14 machine – registries (`InvR`), callbacks (`InvC`), early exits and results (`InvL`), tasks
killed before their first segment (`InvS`): each is a conjunction of clauses about single tasks (`InvR` has the C13
`MapsInv` besides).  A move of one task (`LMove`) asks for that task's clauses, the others carry over by `LMove.frame`;
the remaining moves (`quiet`, `claim`, `mark`, `reap`) change few of the fields read.  So each invariant is preserved by
every `Move` and holds of every `run`.  At the end two single steps (`task.cancel` of a new task, one reaper iteration)
under the flags they rest on. -/
namespace PsModel.C14
open PsModel.C13 (Task upd upd_same upd_other upd_apply MapsInv not_true_false)

set_option linter.unusedSectionVars false
variable {κ : Type} [DecidableEq κ]

theorem run_induction (cfg : Cfg) (P : St κ → Prop) (h0 : P init) (hs : ∀ s op, P s → P (step cfg s op))
    (ops : List (Op κ)) : P (run cfg ops) := by
  have : ∀ (ops : List (Op κ)) (s : St κ), P s → P (ops.foldl (step cfg) s) := by
    intro ops
    induction ops with
    | nil => intro s h; exact h
    | cons op ops ih => intro s h; exact ih _ (hs s op h)
  exact this ops _ h0

/-- `run_coro` is between its first segment and the end of its `finally` -/
def Live (s : St κ) (t : Task) : Prop := s.phase t = .running ∨ s.phase t = .finalizing

theorem active_live (s : St κ) (t : Task) (h : active s t = true) : Live s t := by
  unfold active at h
  cases hp : s.phase t with
  | running => exact Or.inl hp
  | finalizing => exact Or.inr hp
  | _ => rw [hp] at h; cases h

structure InvR (s : St κ) : Prop where
  maps : MapsInv s.u
  live : ∀ t, s.u.live t = true ↔ Live s t
  fresh : ∀ t, (s.phase t = .none ∨ s.phase t = .created) → s.u.started t = false
  ours : ∀ t, s.u.ours t = true → s.phase t = .created ∨ Live s t ∨ s.leaked t = true
  cb : ∀ t, s.cb t ≠ none → s.phase t = .created ∨ Live s t ∨ s.leaked t = true
  hctx : ∀ t, s.hctx t = true → Live s t ∨ s.leaked t = true
  entry : ∀ t, s.u.entry t = true → Live s t ∨ s.leaked t = true
  result : ∀ t, s.phase t = .done → s.leaked t = false → s.result t ≠ none

theorem invR_init : InvR (init : St κ) :=
  ⟨⟨fun _ _ e => (by cases e), fun _ _ e => (by cases e), fun _ => List.nodup_nil⟩,
   fun _ => ⟨fun e => (by cases e), fun e => (by rcases e with e | e <;> cases e)⟩,
   fun _ _ => rfl, fun _ e => (by cases e), fun _ e => absurd rfl e, fun _ e => (by cases e), fun _ e => (by cases e),
   fun _ e => (by cases e)⟩

/-- the clauses of `InvR` for one task -/
structure RegOK (s : St κ) (t : Task) : Prop where
  live : s.u.live t = true ↔ Live s t
  fresh : (s.phase t = .none ∨ s.phase t = .created) → s.u.started t = false
  ours : s.u.ours t = true → s.phase t = .created ∨ Live s t ∨ s.leaked t = true
  cb : s.cb t ≠ none → s.phase t = .created ∨ Live s t ∨ s.leaked t = true
  hctx : s.hctx t = true → Live s t ∨ s.leaked t = true
  entry : s.u.entry t = true → Live s t ∨ s.leaked t = true
  result : s.phase t = .done → s.leaked t = false → s.result t ≠ none

namespace InvR

theorem «at» {s : St κ} (h : InvR s) (t : Task) : RegOK s t :=
  ⟨h.live t, h.fresh t, h.ours t, h.cb t, h.hctx t, h.entry t, h.result t⟩

theorem of {s : St κ} (hm : MapsInv s.u) (h : ∀ t, RegOK s t) : InvR s :=
  ⟨hm, fun t => (h t).live, fun t => (h t).fresh, fun t => (h t).ours, fun t => (h t).cb, fun t => (h t).hctx,
   fun t => (h t).entry, fun t => (h t).result⟩

theorem clean {s : St κ} (h : InvR s) (t : Task) (hp : s.phase t = .none ∨ s.phase t = .done)
    (hl : s.leaked t = false) : Clean s t := by
  have hnl : ¬ Live s t := by unfold Live; rcases hp with e | e <;> (rw [e]; simp)
  have hnc : s.phase t ≠ .created := by rcases hp with e | e <;> (rw [e]; simp)
  have no : ∀ {p : Prop}, (p → Live s t ∨ s.leaked t = true) → ¬ p := by
    intro p f hp
    rcases f hp with a | a
    · exact hnl a
    · rw [hl] at a; cases a
  have no3 : ∀ {p : Prop}, (p → s.phase t = .created ∨ Live s t ∨ s.leaked t = true) → ¬ p :=
    fun f hp => (f hp).elim hnc (no id)
  have hentry : s.u.entry t = false := not_true_false (no (h.entry t))
  have hown : ∀ k, s.u.owner k ≠ some t := by
    intro k e
    have := (h.maps.own k t e).2
    rw [hentry] at this; cases this
  refine ⟨not_true_false (no3 (h.ours t)), Classical.not_not.1 (no3 (h.cb t)), not_true_false (no (h.hctx t)), ?_,
    hentry, hown⟩
  apply List.eq_nil_iff_forall_not_mem.2
  intro k hk
  exact hown k (h.maps.names_own k t hk)

end InvR

namespace RegOK

/-- the clauses read these fields of the task and nothing else (of `cb` only whether there is an entry) -/
theorem congr {s s' : St κ} {x : Task} (h : RegOK s x) (el : s'.u.live x = s.u.live x)
    (es : s'.u.started x = s.u.started x) (eo : s'.u.ours x = s.u.ours x) (ee : s'.u.entry x = s.u.entry x)
    (ep : s'.phase x = s.phase x) (ec : s'.cb x ≠ none → s.cb x ≠ none) (eh : s'.hctx x = s.hctx x)
    (ek : s'.leaked x = s.leaked x) (er : s'.result x = s.result x) : RegOK s' x := by
  have hL : Live s' x ↔ Live s x := by unfold Live; rw [ep]
  obtain ⟨h1, h2, h3, h4, h5, h6, h7⟩ := h
  refine ⟨?_, ?_, ?_, ?_, ?_, ?_, ?_⟩
  · rw [el, hL]; exact h1
  · rw [ep, es]; exact h2
  · rw [eo, ep, hL, ek]; exact h3
  · intro hc; rw [ep, hL, ek]; exact h4 (ec hc)
  · rw [eh, hL, ek]; exact h5
  · rw [ee, hL, ek]; exact h6
  · rw [ep, ek, er]; exact h7

theorem of_live {s : St κ} {t : Task} (hp : Live s t) (hl : s.u.live t = true) : RegOK s t := by
  have early : ∀ p, s.phase t = p → p ≠ .running → p ≠ .finalizing → False :=
    fun p e h1 h2 => hp.elim (fun a => h1 (e.symm.trans a)) (fun a => h2 (e.symm.trans a))
  exact ⟨⟨fun _ => hp, fun _ => hl⟩,
    fun hh => (hh.elim (fun e => early _ e (by simp) (by simp)) (fun e => early _ e (by simp) (by simp))).elim,
    fun _ => Or.inr (Or.inl hp), fun _ => Or.inr (Or.inl hp), fun _ => Or.inl hp, fun _ => Or.inl hp,
    fun hd => (early _ hd (by simp) (by simp)).elim⟩

theorem of_leaked {s : St κ} {t : Task} (hp : s.phase t = .done) (hl : s.u.live t = false)
    (hk : s.leaked t = true) : RegOK s t :=
  ⟨⟨fun h => (by rw [hl] at h; cases h), fun h => (by unfold Live at h; rw [hp] at h; simp at h)⟩,
   fun hh => (by rw [hp] at hh; simp at hh),
   fun _ => Or.inr (Or.inr hk), fun _ => Or.inr (Or.inr hk), fun _ => Or.inr hk, fun _ => Or.inr hk,
   fun _ hf => (by rw [hk] at hf; cases hf)⟩

theorem of_clean {s : St κ} {t : Task} (hp : s.phase t = .done) (hl : s.u.live t = false)
    (ho : s.u.ours t = false) (hc : s.cb t = none) (hh : s.hctx t = false) (he : s.u.entry t = false)
    (hr : s.result t ≠ none) : RegOK s t :=
  ⟨⟨fun h => (by rw [hl] at h; cases h), fun h => (by unfold Live at h; rw [hp] at h; simp at h)⟩,
   fun h => (by rw [hp] at h; simp at h),
   fun h => (by rw [ho] at h; cases h), fun h => absurd hc h, fun h => (by rw [hh] at h; cases h),
   fun h => (by rw [he] at h; cases h), fun _ _ => hr⟩

end RegOK

/-- a move that changes none of the fields read; an argument left out is `rfl` (of `cb`: the same entries) -/
theorem invR_congr {s s' : St κ} (h : InvR s) (owner : s'.u.owner = s.u.owner := by exact rfl)
    (names : s'.u.names = s.u.names := by exact rfl) (entry : s'.u.entry = s.u.entry := by exact rfl)
    (live : s'.u.live = s.u.live := by exact rfl) (started : s'.u.started = s.u.started := by exact rfl)
    (ours : s'.u.ours = s.u.ours := by exact rfl) (phase : s'.phase = s.phase := by exact rfl)
    (cb : ∀ t, s'.cb t ≠ none → s.cb t ≠ none := by exact fun _ hx => hx) (hctx : s'.hctx = s.hctx := by exact rfl)
    (leaked : s'.leaked = s.leaked := by exact rfl) (result : s'.result = s.result := by exact rfl) : InvR s' :=
  InvR.of (mapsInv_congr h.maps owner names entry) fun x =>
    (h.at x).congr (congrFun live x) (congrFun started x) (congrFun ours x) (congrFun entry x) (congrFun phase x) (cb x)
      (congrFun hctx x) (congrFun leaked x) (congrFun result x)

/-- a move that concerns task `t` only: its clauses are to be shown, the others carry over -/
theorem invR_update {s s' : St κ} {t : Task} (h : InvR s) (hm : MapsInv s'.u) (fo : ∀ x, x ≠ t → SameAt s s' x)
    (ht : RegOK s' t) : InvR s' := by
  refine InvR.of hm fun x => ?_
  by_cases hx : x = t
  · subst hx; exact ht
  · have f := fo x hx
    exact (h.at x).congr f.u.live f.u.started f.u.ours f.u.entry f.phase (fun hc => f.cb ▸ hc) f.hctx f.leaked
      f.result

/-- the callback-loop bookkeeping is not read -/
theorem invR_unread {s : St κ} {ran : List (Task × Cb × Args)} {idx : Task → Nat} {ld cr ic : Task → Bool}
    {b : Task → Option Res} (h : InvR s) :
    InvR { s with ran := ran, idx := idx, loopDone := ld, cbRaised := cr, inCb := ic, bailed := b } :=
  invR_congr h

theorem invR_finish {s : St κ} {t : Task} {r : Res} (h : InvR s) (hp : s.phase t = .finalizing) :
    InvR (finish s t r) := by
  have fo := fun x hx => finish_frame s t x r hx
  unfold finish at fo ⊢
  have hex := C13.exit_eq s.u t h.maps ((h.live t).2 (Or.inr hp))
  refine invR_update h (mapsInv_exit s.u t h.maps) fo
    (RegOK.of_clean (upd_same _ _ _) ?_ ?_ (upd_same _ _ _) (upd_same _ _ _) ?_ (by simp))
  all_goals simp only [hex, upd_same]

theorem invR_lmove {cfg : Cfg} {s s' : St κ} {t : Task} (h : InvR s) (m : LMove cfg s t s') : InvR s' := by
  have fr : ∀ x, x ≠ t → SameAt s s' x := fun _ hx => m.frame hx
  cases m with
  | stay => exact h
  | create wc pre o hp =>
    have hnl : ¬ Live s t := by unfold Live; rw [hp]; simp
    refine invR_update h (mapsInv_congr h.maps rfl rfl rfl) fr ⟨?_, ?_, ?_, ?_, ?_, ?_, ?_⟩
    · exact ⟨fun hl => absurd ((h.live t).1 hl) hnl, fun hl => by unfold Live at hl; simp at hl⟩
    · intro _; exact h.fresh t (Or.inl hp)
    · intro _; exact Or.inl (by simp)
    · intro _; exact Or.inl (by simp)
    · intro hh; exact Or.inr ((h.hctx t hh).resolve_left hnl)
    · intro he; exact Or.inr ((h.entry t he).resolve_left hnl)
    · intro hd; simp at hd
  | setCb l l' hc =>
    refine invR_congr h (cb := ?_)
    intro x hx
    by_cases e : x = t
    · subst e; rw [hc]; simp
    · simpa [upd_other _ _ _ _ e] using hx
  | kill hp =>
    have hnl : s.u.live t = false := not_true_false fun hl => by
      have := (h.live t).1 hl
      unfold Live at this; rw [hp] at this; simp at this
    exact invR_update h (mapsInv_congr h.maps rfl rfl rfl) fr
      (RegOK.of_leaked (upd_same _ _ _) hnl (upd_same _ _ _))
  | start hp =>
    have hsp := spawn_fresh s.u t (h.fresh t (Or.inr hp))
    refine invR_update h ?_ fr (RegOK.of_live (Or.inl (upd_same _ _ _)) ?_)
    · exact mapsInv_congr h.maps (by simp only [hsp]) (by simp only [hsp]) (by simp only [hsp])
    · simp only [hsp, upd_same]
  | storeCtx ha =>
    have hl := active_live s t ha
    exact invR_update h h.maps fr (RegOK.of_live hl ((h.live t).2 hl))
  | endBody oc hp =>
    exact invR_update h (mapsInv_congr h.maps rfl rfl rfl) fr
      (RegOK.of_live (Or.inr (upd_same _ _ _)) ((h.live t).2 (Or.inl hp)))
  | bailClean r ic hp => exact invR_finish (invR_unread h) hp
  | abort r ic _ hp =>
    -- the finished task stays registered, leaked
    exact invR_update h (mapsInv_congr h.maps rfl rfl rfl) fr
      (RegOK.of_leaked (upd_same _ _ _) (upd_same _ _ _) (upd_same _ _ _))
  | finish hp => exact invR_finish h hp
  | _ => exact invR_unread h

theorem invR_move {cfg : Cfg} {s s' : St κ} (h : InvR s) (m : Move cfg s s') : InvR s' := by
  cases m with
  | stay => exact h
  | loc t m => exact invR_lmove h m
  | quiet u' n q =>
    exact invR_congr h q.owner q.names q.entry q.live q.started q.ours
  | claim v t k q ha =>
    obtain ⟨m, e1, e2, e3, e4⟩ := claim_facts v t k (mapsInv_congr h.maps q.owner q.names q.entry)
    obtain ⟨h1, h2, h3, h4, h5, h6, h7, h8⟩ := h
    refine ⟨m, ?_, ?_, ?_, h5, h6, ?_, h8⟩
    · intro x; simp only [e1, q.live]; exact h2 x
    · intro x; simp only [e2, q.started]; exact h3 x
    · intro x; simp only [e3, q.ours]; exact h4 x
    · intro x hx
      rcases e4 x hx with hx | rfl
      · exact h7 x (q.entry ▸ hx)
      · exact Or.inl (active_live s x ha)
  | reap =>
    obtain ⟨owner, names, entry, ours, live, started, _⟩ := C13.reapCfg_fields (!cfg.reaperDetached) s.u
    exact invR_congr h owner names entry live started ours
  | _ => exact invR_congr h

/-- the callback loop of `t` runs over the list its body ended with: it iterates over the snapshot, or nobody has added
to or removed from the live dict since -/
def LoopFixed (cfg : Cfg) (s : St κ) (t : Task) : Prop := cfg.snapshotIter = true ∨ s.touched t = false

structure CbOK (cfg : Cfg) (s : St κ) (t : Task) : Prop where
  /-- the table has one entry per callback function -/
  keys : ∀ l, s.cb t = some l → (l.map (·.1)).Nodup
  /-- so has the list the body ended with -/
  atEndKeys : ((s.atEnd t).map (·.1)).Nodup
  /-- before the body has ended no callback has run -/
  pre : (s.phase t = .none ∨ s.phase t = .created ∨ s.phase t = .running) → ranOf s t = []
  /-- while the `finally` runs, an untouched live dict is the list the body ended with, of the size its iterator
  remembers -/
  fin : s.phase t = .finalizing → s.touched t = false →
    cbList s t = s.atEnd t ∧ s.iterSize t = (s.atEnd t).length
  /-- the callbacks that ran are the first `idx` of that list -/
  ran : (s.phase t = .finalizing ∨ s.phase t = .done) → LoopFixed cfg s t →
    ranOf s t = (s.atEnd t).take (s.idx t) ∧ s.idx t ≤ (s.atEnd t).length
  /-- the loop is left by `break` only in the pre-fix shape, after a callback raised -/
  loop : s.loopDone t = true → cfg.cbContinues = false ∧ s.cbRaised t = true
  /-- all callbacks ran, of a finished task whose loop was left neither by an exception (`bailed`) nor by `break` -/
  full : s.phase t = .done → LoopFixed cfg s t → s.bailed t = none →
    (cfg.cbContinues = true ∨ s.cbRaised t = false) → s.idx t = (s.atEnd t).length

def InvC (cfg : Cfg) (s : St κ) : Prop := ∀ t, CbOK cfg s t

theorem invC_init (cfg : Cfg) : InvC cfg (init : St κ) := fun _ =>
  ⟨fun _ e => (by cases e), List.nodup_nil, fun _ => rfl, fun e => (by cases e),
   fun e => (by rcases e with e | e <;> cases e), fun e => (by cases e), fun e => (by cases e)⟩

namespace CbOK

/-- the clauses read these fields of the task and nothing else (`bailed` only once it has finished) -/
theorem congr {cfg : Cfg} {s s' : St κ} {x : Task} (h : CbOK cfg s x) (e1 : s'.cb x = s.cb x)
    (e2 : s'.atEnd x = s.atEnd x) (e3 : s'.phase x = s.phase x) (e4 : s'.touched x = s.touched x)
    (e5 : s'.idx x = s.idx x) (e6 : s'.iterSize x = s.iterSize x) (e7 : s'.loopDone x = s.loopDone x)
    (e8 : s'.cbRaised x = s.cbRaised x) (e9 : s.phase x = .done → s'.bailed x = s.bailed x)
    (e10 : ranOf s' x = ranOf s x) : CbOK cfg s' x := by
  have hc : cbList s' x = cbList s x := by unfold cbList; rw [e1]
  have hf : LoopFixed cfg s' x = LoopFixed cfg s x := by unfold LoopFixed; rw [e4]
  obtain ⟨h1, h2, h3, h4, h5, h6, h7⟩ := h
  refine ⟨?_, ?_, ?_, ?_, ?_, ?_, ?_⟩
  · rw [e1]; exact h1
  · rw [e2]; exact h2
  · rw [e3, e10]; exact h3
  · rw [e3, e4, hc, e2, e6]; exact h4
  · rw [e3, hf, e10, e2, e5]; exact h5
  · rw [e7, e8]; exact h6
  · rw [e3, hf, e8, e5, e2]
    intro hd; rw [e9 hd]; exact h7 hd

end CbOK

theorem invC_update {cfg : Cfg} {s s' : St κ} {t : Task} (h : InvC cfg s) (fo : ∀ x, x ≠ t → SameAt s s' x)
    (ht : CbOK cfg s' t) : InvC cfg s' := by
  intro x
  by_cases hx : x = t
  · subst hx; exact ht
  · have f := fo x hx
    exact (h x).congr f.cb f.atEnd f.phase f.touched f.idx f.iterSize f.loopDone f.cbRaised (fun _ => f.bailed) f.ran

/-- the C13 state, `task2context`, `inCb` and the error count are not read, nor `bailed` of an unfinished task -/
theorem invC_unread {cfg : Cfg} {s : St κ} {u : C13.St κ} {hc ic : Task → Bool} {b : Task → Option Res} {n : Nat}
    (h : InvC cfg s) (hb : ∀ x, s.phase x = .done → b x = s.bailed x) :
    InvC cfg { s with u := u, hctx := hc, inCb := ic, bailed := b, errs := n } := fun x =>
  (h x).congr rfl rfl rfl rfl rfl rfl rfl rfl (hb x) rfl

theorem cbList_nodup {cfg : Cfg} {s : St κ} (h : InvC cfg s) (t : Task) : ((cbList s t).map (·.1)).Nodup := by
  unfold cbList
  cases hc : s.cb t with
  | none => simp
  | some l => exact (h t).keys l hc

theorem iterList_atEnd {cfg : Cfg} {s : St κ} {t : Task} (h : InvC cfg s) (hp : s.phase t = .finalizing)
    (ht : LoopFixed cfg s t) : iterList cfg s t = s.atEnd t := by
  unfold iterList
  cases hs : cfg.snapshotIter with
  | true => simp
  | false =>
    rcases ht with e | e
    · rw [hs] at e; cases e
    · simp only [Bool.false_eq_true, if_false]; exact ((h t).fin hp e).1

/-- the clean-up block; `hfull` is the "all callbacks ran" claim of the state before it -/
theorem invC_finish {cfg : Cfg} {s : St κ} {t : Task} {r : Res} (h : InvC cfg s) (hp : s.phase t = .finalizing)
    (hfull : LoopFixed cfg s t → s.bailed t = none →
      (cfg.cbContinues = true ∨ s.cbRaised t = false) → s.idx t = (s.atEnd t).length) :
    InvC cfg (finish s t r) := by
  have fo := fun x hx => finish_frame s t x r hx
  unfold finish at fo ⊢
  refine invC_update h fo { h t with keys := ?_, pre := ?_, fin := ?_, ran := ?_, full := ?_ }
  · intro l hl; simp at hl
  · intro hh; simp at hh
  · intro hh; simp at hh
  · intro _ ht; exact (h t).ran (Or.inl hp) ht
  · intro _ ht hb hcr; exact hfull ht hb hcr

theorem invC_flags {cfg : Cfg} {s : St κ} {t : Task} {ld cr ic : Task → Bool} (h : InvC cfg s)
    (hp : s.phase t = .finalizing) (hloop : ld t = true → cfg.cbContinues = false ∧ cr t = true)
    (fo : ∀ x, x ≠ t → SameAt s { s with inCb := ic, loopDone := ld, cbRaised := cr } x) :
    InvC cfg { s with inCb := ic, loopDone := ld, cbRaised := cr } := by
  refine invC_update h fo { h t with pre := ?_, fin := ?_, ran := ?_, loop := hloop, full := ?_ }
  · intro hh; rw [hp] at hh; simp at hh
  · intro _ ht; exact (h t).fin hp ht
  · intro _ ht; exact (h t).ran (Or.inl hp) ht
  · intro hh; rw [hp] at hh; cases hh

theorem invC_lmove {cfg : Cfg} {s s' : St κ} {t : Task} (h : InvC cfg s) (m : LMove cfg s t s') : InvC cfg s' := by
  have fr : ∀ x, x ≠ t → SameAt s s' x := fun _ hx => m.frame hx
  cases m with
  | create wc pre o hp =>
    refine invC_update h fr
      { h t with keys := ensureIf_keys pre s.cb t (h t).keys, pre := ?_, fin := ?_, ran := ?_, full := ?_ }
    · intro _; exact (h t).pre (Or.inl hp)
    · intro hh; simp at hh
    · intro hh; simp at hh
    · intro hh; simp at hh
  | setCb l l' hc hk =>
    refine invC_update h fr { h t with keys := ?_, fin := ?_, ran := ?_, full := ?_ }
    · intro l hl
      simp only [upd_same, Option.some.injEq] at hl
      subst hl; exact hk ((h t).keys _ hc)
    · intro hp ht
      exact absurd hp (noteTouch_same s t ht).1
    · intro hp ht
      exact (h t).ran hp (ht.imp id fun e => (noteTouch_same s t e).2)
    · intro hp ht
      exact (h t).full hp (ht.imp id fun e => (noteTouch_same s t e).2)
  | kill hp =>
    unfold killUnstarted at fr ⊢
    refine invC_update h fr { h t with atEndKeys := ?_, pre := ?_, fin := ?_, ran := ?_, full := ?_ }
    · simp only [upd_same]; exact cbList_nodup h t
    · intro hh; simp at hh
    · intro hh; simp at hh
    · intro _ _
      simp only [upd_same]
      exact ⟨(h t).pre (Or.inr (Or.inl hp)), Nat.zero_le _⟩
    · intro _ _ hb; simp at hb
  | start hp =>
    refine invC_update h fr
      { h t with keys := ensureIf_keys (s.withCtx t) s.cb t (h t).keys, pre := ?_, fin := ?_, ran := ?_, full := ?_ }
    · intro _; exact (h t).pre (Or.inr (Or.inl hp))
    · intro hh; simp at hh
    · intro hh; simp at hh
    · intro hh; simp at hh
  | endBody oc hp =>
    refine invC_update h fr { h t with atEndKeys := ?_, pre := ?_, fin := ?_, ran := ?_, full := ?_ }
    · simp only [upd_same]; exact cbList_nodup h t
    · intro hh; simp at hh
    · intro _ _
      simp only [upd_same]
      exact ⟨rfl, trivial⟩
    · intro _ _
      simp only [upd_same]
      exact ⟨(h t).pre (Or.inr (Or.inr hp)), Nat.zero_le _⟩
    · intro hh; simp at hh
  | cbBegin c a hp hget =>
    refine invC_update h fr { h t with pre := ?_, fin := ?_, ran := ?_, full := ?_ }
    · intro hh; rw [hp] at hh; simp at hh
    · intro _ ht; exact (h t).fin hp ht
    · intro _ ht
      obtain ⟨r1, _⟩ := (h t).ran (Or.inl hp) ht
      rw [iterList_atEnd h hp ht] at hget
      obtain ⟨hlt, _⟩ := List.getElem?_eq_some_iff.1 hget
      rw [ranOf_append s t t c a _ rfl]
      simp only [if_true, upd_same]
      rw [r1, List.take_add_one, hget]
      exact ⟨rfl, hlt⟩
    · intro hh; rw [hp] at hh; cases hh
  | cbRaiseOn hp hcc =>
    -- `loopDone` is not touched and, the loop going on after a raising callback (`hcc`), was false
    cases hld : s.loopDone t with
    | true =>
      have := ((h t).loop hld).1
      rw [hcc] at this; cases this
    | false =>
      exact invC_flags h hp (fun hl => by rw [hld] at hl; cases hl) fr
  | cbRaiseBreak hp hcc =>
    exact invC_flags h hp (fun _ => ⟨hcc, by simp⟩) fr
  | bailClean r ic hp =>
    -- `bailed` is set, on a task that has not finished: "all callbacks ran" is claimed neither before nor after
    have h1 : InvC cfg { s with inCb := ic, bailed := upd s.bailed t (some r) } :=
      invC_unread h fun x hd => upd_other _ _ _ _ fun e => by subst e; rw [hp] at hd; cases hd
    exact invC_finish h1 hp fun _ hb _ => by simp at hb
  | abort r ic _ hp =>
    unfold abort
    refine invC_update h fr { h t with pre := ?_, fin := ?_, ran := ?_, full := ?_ }
    · intro hh; simp at hh
    · intro hh; simp at hh
    · intro _ ht; exact (h t).ran (Or.inl hp) ht
    · intro _ _ hk; simp at hk
  | finish hp hlp =>
    refine invC_finish h hp fun ht _ hcr => ?_
    -- nothing pending: either the loop was left by `break` (a callback raised) or `idx` has reached the end
    obtain ⟨_, r2⟩ := (h t).ran (Or.inl hp) ht
    unfold loopPending at hlp
    rw [iterList_atEnd h hp ht] at hlp
    cases hld : s.loopDone t with
    | true =>
      obtain ⟨c1, c2⟩ := (h t).loop hld
      rcases hcr with e | e
      · rw [c1] at e; cases e
      · rw [c2] at e; cases e
    | false =>
      rw [hld] at hlp
      have : ¬ s.idx t < (s.atEnd t).length := by simpa using hlp
      omega
  | _ => exact invC_unread h fun _ _ => rfl

theorem invC_move {cfg : Cfg} {s s' : St κ} (h : InvC cfg s) (m : Move cfg s s') : InvC cfg s' := by
  cases m with
  | stay => exact h
  | loc t m => exact invC_lmove h m
  | _ => exact invC_unread h fun _ _ => rfl

/-- how task `t` may have ended:
* a leaked task (clean-up skipped) exists only without the inner `try … finally` or when it was killed before its first
  segment, is finished, and counts as having left its callback loop early;
* a task that left its callback loop early is finished with that exception: a cancellation (delivered inside a
  callback, or the kill before its first segment), or – live-dict iteration only – the `RuntimeError` of a dict resized
  while its `finally` ran;
* every other finished task finished with its body's outcome. -/
structure ResOK (cfg : Cfg) (s : St κ) (t : Task) : Prop where
  leak : s.leaked t = true →
    (cfg.cleanupAlways = false ∨ s.stillborn t = true) ∧ s.phase t = .done ∧ s.bailed t ≠ none
  bail : ∀ r, s.bailed t = some r → s.phase t = .done ∧ s.result t = some r ∧
    (r = .cancelled ∨ (r = .error ∧ s.touched t = true ∧ cfg.snapshotIter = false))
  res : s.phase t = .done → s.bailed t = none → s.result t = some (resultOf (s.outcome t))

def InvL (cfg : Cfg) (s : St κ) : Prop := ∀ t, ResOK cfg s t

theorem invL_init (cfg : Cfg) : InvL cfg (init : St κ) := fun t =>
  ⟨fun e => (by cases e), fun _ e => (by cases e), fun e => (by cases e)⟩

namespace ResOK

/-- the clauses read these fields of the task and nothing else (`touched` may only grow) -/
theorem congr {cfg : Cfg} {s s' : St κ} {x : Task} (h : ResOK cfg s x) (e1 : s'.leaked x = s.leaked x)
    (e2 : s'.phase x = s.phase x) (e3 : s.touched x = true → s'.touched x = true) (e4 : s'.result x = s.result x)
    (e5 : s'.bailed x = s.bailed x) (e6 : s'.outcome x = s.outcome x) (e7 : s'.stillborn x = s.stillborn x) :
    ResOK cfg s' x := by
  obtain ⟨h1, h2, h3⟩ := h
  refine ⟨?_, ?_, ?_⟩
  · rw [e1, e2, e5, e7]; exact h1
  · intro r; rw [e2, e4, e5]
    intro hb
    obtain ⟨a, b, c⟩ := h2 r hb
    exact ⟨a, b, c.imp id fun ⟨c1, c2, c3⟩ => ⟨c1, e3 c2, c3⟩⟩
  · rw [e2, e4, e5, e6]; exact h3

/-- a task that ended with the exception `r` that left its callback loop -/
theorem of_bailed {cfg : Cfg} {s : St κ} {t : Task} {r : Res} (hp : s.phase t = .done)
    (hb : s.bailed t = some r) (hr : s.result t = some r)
    (hc : r = .cancelled ∨ (r = .error ∧ s.touched t = true ∧ cfg.snapshotIter = false))
    (hl : s.leaked t = true → cfg.cleanupAlways = false ∨ s.stillborn t = true) : ResOK cfg s t :=
  ⟨fun h => ⟨hl h, hp, by rw [hb]; simp⟩, fun r' h => by rw [hb] at h; cases h; exact ⟨hp, hr, hc⟩,
   fun _ h => by rw [hb] at h; cases h⟩

end ResOK

theorem invL_update {cfg : Cfg} {s s' : St κ} {t : Task} (h : InvL cfg s) (fo : ∀ x, x ≠ t → SameAt s s' x)
    (ht : ResOK cfg s' t) : InvL cfg s' := by
  intro x
  by_cases hx : x = t
  · subst hx; exact ht
  · have f := fo x hx
    exact (h x).congr f.leaked f.phase (fun e => f.touched ▸ e) f.result f.bailed f.outcome f.stillborn

/-- the C13 state, the callback table, `task2context`, the loop bookkeeping and the error count are not read; `touched`
may grow -/
theorem invL_unread {cfg : Cfg} {s : St κ} {u : C13.St κ} {cb : Task → Option (List (Cb × Args))}
    {hc ic ld cr tc : Task → Bool} {ran : List (Task × Cb × Args)} {idx : Task → Nat} {n : Nat} (h : InvL cfg s)
    (ht : ∀ x, s.touched x = true → tc x = true) :
    InvL cfg { s with u := u, cb := cb, hctx := hc, inCb := ic, ran := ran, idx := idx, loopDone := ld, cbRaised := cr,
                      touched := tc, errs := n } := fun x =>
  (h x).congr rfl rfl (ht x) rfl rfl rfl rfl

theorem invL_fresh {cfg : Cfg} {s : St κ} (h : InvL cfg s) (t : Task) (hp : s.phase t ≠ .done) :
    s.leaked t = false ∧ s.bailed t = none := by
  constructor
  · cases hl : s.leaked t with
    | false => rfl
    | true => exact absurd ((h t).leak hl).2.1 hp
  · cases hb : s.bailed t with
    | none => rfl
    | some r => exact absurd ((h t).bail r hb).1 hp

/-- a phase change of a not yet finished task to a not finished phase -/
theorem invL_phase {cfg : Cfg} {s s' : St κ} {t : Task} (h : InvL cfg s) (hp : s.phase t ≠ .done)
    (hp' : s'.phase t ≠ .done) (fo : ∀ x, x ≠ t → SameAt s s' x) (el : s'.leaked t = s.leaked t)
    (eb : s'.bailed t = s.bailed t) : InvL cfg s' := by
  obtain ⟨f1, f2⟩ := invL_fresh h t hp
  refine invL_update h fo ⟨?_, ?_, ?_⟩
  · intro hl; rw [el, f1] at hl; cases hl
  · intro r hb; rw [eb, f2] at hb; cases hb
  · intro hd; exact absurd hd hp'

/-- a resized live dict means somebody touched the callbacks of the finishing task -/
theorem bail_cause {cfg : Cfg} {s : St κ} {t : Task} {r : Res} (hc : InvC cfg s) (hp : s.phase t = .finalizing)
    (h : r = .cancelled ∨ (r = .error ∧ resized cfg s t = true)) :
    r = .cancelled ∨ (r = .error ∧ s.touched t = true ∧ cfg.snapshotIter = false) := by
  refine h.imp id fun ⟨e, hr⟩ => ⟨e, ?_⟩
  unfold resized at hr
  simp only [Bool.and_eq_true, Bool.not_eq_true', bne_iff_ne, ne_eq] at hr
  refine ⟨?_, hr.1⟩
  cases ht : s.touched t with
  | true => rfl
  | false =>
    obtain ⟨f1, f2⟩ := (hc t).fin hp ht
    exact absurd (by rw [f2, f1]) hr.2

theorem invL_lmove {cfg : Cfg} {s s' : St κ} {t : Task} (hc : InvC cfg s) (h : InvL cfg s) (m : LMove cfg s t s') :
    InvL cfg s' := by
  have fr : ∀ x, x ≠ t → SameAt s s' x := fun _ hx => m.frame hx
  cases m with
  | stay => exact h
  | create wc pre o hp => exact invL_phase h (by rw [hp]; simp) (by simp) fr rfl rfl
  | setCb l l' => exact invL_unread h fun x e => noteTouch_mono s t x e
  | kill hp =>
    unfold killUnstarted
    exact invL_update h fr (.of_bailed (upd_same _ _ _) (upd_same _ _ _) (upd_same _ _ _) (Or.inl rfl)
      fun _ => Or.inr (upd_same _ _ _))
  | start hp => exact invL_phase h (by rw [hp]; simp) (by simp) fr rfl rfl
  | endBody oc hp => exact invL_phase h (by rw [hp]; simp) (by simp) fr rfl rfl
  | bailClean r ic hp _ hcause =>
    have hnl := (invL_fresh h t (by rw [hp]; simp)).1
    have hcause := bail_cause hc hp hcause
    unfold finish
    exact invL_update h fr (.of_bailed (upd_same _ _ _) (upd_same _ _ _) (upd_same _ _ _) hcause
      fun hl => by rw [hnl] at hl; cases hl)
  | abort r ic hca hp _ hcause =>
    have hcause := bail_cause hc hp hcause
    unfold abort
    exact invL_update h fr (.of_bailed (upd_same _ _ _) (upd_same _ _ _) (upd_same _ _ _) hcause
      fun _ => Or.inl hca)
  | finish hp =>
    have hb := (invL_fresh h t (by rw [hp]; simp)).2
    unfold finish at fr ⊢
    refine invL_update h fr ⟨?_, ?_, ?_⟩
    · intro hl; rw [((h t).leak hl).2.1] at hp; cases hp
    · intro r' hb'; rw [hb] at hb'; cases hb'
    · intro _ _; simp
  | _ => exact invL_unread h fun _ e => e

theorem invL_move {cfg : Cfg} {s s' : St κ} (hc : InvC cfg s) (h : InvL cfg s) (m : Move cfg s s') : InvL cfg s' := by
  cases m with
  | stay => exact h
  | loc t m => exact invL_lmove hc h m
  | _ => exact invL_unread h fun _ e => e

/-! ### a task is only ever killed before its first segment when the reaper does not wait for it -/

structure InvS (cfg : Cfg) (s : St κ) : Prop where
  still : ∀ t, s.stillborn t = true → cfg.reaperWaitsForStart = false
  creq : ∀ t, (s.phase t = .none ∨ s.phase t = .created) → s.u.cancelReq t = true → cfg.reaperWaitsForStart = false

theorem invS_init (cfg : Cfg) : InvS cfg (init : St κ) :=
  ⟨fun _ e => (by cases e), fun _ _ e => (by cases e)⟩

/-- a move that changes none of the fields read; an argument left out is `rfl` -/
theorem invS_congr {cfg : Cfg} {s s' : St κ} (h : InvS cfg s) (cancelReq : s'.u.cancelReq = s.u.cancelReq := by exact rfl)
    (phase : s'.phase = s.phase := by exact rfl) (stillborn : s'.stillborn = s.stillborn := by exact rfl) : InvS cfg s' :=
  ⟨fun t ht => h.still t (by rw [← stillborn]; exact ht),
   fun t hp hc => h.creq t (by rw [← phase]; exact hp) (by rw [← cancelReq]; exact hc)⟩

/-- a move that concerns task `t` only: its two clauses are to be shown, the others carry over -/
theorem invS_update {cfg : Cfg} {s s' : St κ} {t : Task} (h : InvS cfg s) (fo : ∀ x, x ≠ t → SameAt s s' x)
    (h1 : s'.stillborn t = true → cfg.reaperWaitsForStart = false)
    (h2 : (s'.phase t = .none ∨ s'.phase t = .created) → s'.u.cancelReq t = true →
      cfg.reaperWaitsForStart = false) : InvS cfg s' := by
  refine ⟨fun x hx => ?_, fun x hp hc => ?_⟩
  · by_cases e : x = t
    · subst e; exact h1 hx
    · exact h.still x ((fo x e).stillborn ▸ hx)
  · by_cases e : x = t
    · subst e; exact h2 hp hc
    · have f := fo x e
      exact h.creq x (f.phase ▸ hp) (f.u.cancelReq ▸ hc)

theorem invS_lmove {cfg : Cfg} {s s' : St κ} {t : Task} (h : InvS cfg s) (m : LMove cfg s t s') : InvS cfg s' := by
  have fr : ∀ x, x ≠ t → SameAt s s' x := fun _ hx => m.frame hx
  cases m with
  | create wc pre o hp => exact invS_update h fr (h.still t) fun _ hc => h.creq t (Or.inl hp) hc
  | kill hp hcr =>
    exact invS_update h fr (fun _ => h.creq t (Or.inr hp) hcr) fun hx => by simp [killUnstarted] at hx
  | start | endBody => exact invS_update h fr (h.still t) fun hx => by simp at hx
  | abort => exact invS_update h fr (h.still t) fun hx => by simp [abort] at hx
  | bailClean | finish => exact invS_update h fr (h.still t) fun hx => by simp [finish] at hx
  | _ => exact invS_congr h

theorem invS_move {cfg : Cfg} {s s' : St κ} (hr : InvR s) (h : InvS cfg s) (m : Move cfg s s') : InvS cfg s' := by
  cases m with
  | stay => exact h
  | loc t m => exact invS_lmove h m
  | quiet u' n q => exact invS_congr h q.cancelReq
  | claim v t k q =>
    exact invS_congr h ((C13.claim_queue v t k).2.1.trans q.cancelReq)
  | mark _ _ hf => exact ⟨fun _ _ => hf, fun _ _ _ => hf⟩
  | reap =>
    refine ⟨h.still, fun x hx hc => ?_⟩
    rcases reapCfg_cancelReq _ s.u x hc with e | hl
    · exact h.creq x hx e
    · have := (hr.live x).1 hl
      unfold Live at this
      rcases hx with e | e <;> (rw [e] at this; simp at this)

/-! ### every run satisfies the four invariants (one induction: `InvL` rests on `InvC`, `InvS` on `InvR`) -/

theorem inv_run (cfg : Cfg) (ops : List (Op κ)) :
    InvR (run cfg ops) ∧ InvC cfg (run cfg ops) ∧ InvL cfg (run cfg ops) ∧ InvS cfg (run cfg ops) :=
  run_induction cfg (fun s => InvR s ∧ InvC cfg s ∧ InvL cfg s ∧ InvS cfg s)
    ⟨invR_init, invC_init cfg, invL_init cfg, invS_init cfg⟩
    (fun s op ⟨hr, hc, hl, hs⟩ =>
      have m := step_move cfg s op
      ⟨invR_move hr m, invC_move hc m, invL_move hc hl m, invS_move hr hs m⟩) ops

theorem invR_run (cfg : Cfg) (ops : List (Op κ)) : InvR (run cfg ops) := (inv_run cfg ops).1

theorem invC_run (cfg : Cfg) (ops : List (Op κ)) : InvC cfg (run cfg ops) := (inv_run cfg ops).2.1

theorem invL_run (cfg : Cfg) (ops : List (Op κ)) : InvL cfg (run cfg ops) := (inv_run cfg ops).2.2.1

theorem invS_run (cfg : Cfg) (ops : List (Op κ)) : InvS cfg (run cfg ops) := (inv_run cfg ops).2.2.2

/-- with `our_tasks.add` in `create_task` (/repo e8a0175) a task can be cancelled from the moment it exists -/
theorem cancel_created (cfg : Cfg) (ho : cfg.oursAtCreate = true) (s : St κ) (a t : Task) (wc pre : Bool)
    (hp : s.phase t = .none) (ha : active s a = true) (hne : a ≠ t) :
    (step cfg (step cfg s (.create t wc pre)) (.cancel a (some t))).errs = s.errs ∧
    t ∈ (step cfg (step cfg s (.create t wc pre)) (.cancel a (some t))).u.reaperQ := by
  have hact : active (createStep cfg s t wc pre) a = true := by
    unfold active at ha ⊢
    unfold createStep
    simp only [hp, ne_eq, not_true_eq_false, if_false, upd_other _ _ _ _ hne, ho, if_true]
    exact ha
  simp only [step, cancelStep, hact, Bool.not_true, Bool.false_eq_true, if_false, Option.getD_some]
  have hours : (createStep cfg s t wc pre).u.ours t = true := by
    unfold createStep
    simp [hp, ho]
  simp only [hours, Bool.not_true, Bool.false_eq_true, if_false, Option.isNone_some]
  constructor
  · unfold createStep; simp [hp]
  · simp [C13.enqueue]

/-- one reaper iteration at a non-empty queue: a reaper that awaits nobody (/repo 32185a9) takes the head at once, unless
the head has not started and the reaper waits for that (/repo ca978a8) -/
theorem reap_head (cfg : Cfg) (s : St κ) (h : Task) (q : List Task) (hq : s.u.reaperQ = h :: q) :
    (cfg.reaperDetached = true → s.phase h ≠ .created →
      (step cfg s .reap).u.reaperQ = q ∧ (s.u.live h = true → (step cfg s .reap).u.cancelReq h = true)) ∧
    (cfg.reaperWaitsForStart = true → s.phase h = .created → step cfg s .reap = s) := by
  constructor
  · intro hd hs
    have hu : headUnstarted s = false := by
      unfold headUnstarted; rw [hq]
      simp only [beq_eq_false_iff_ne, ne_eq]; exact hs
    simp only [step, reapStep, hu, Bool.false_eq_true, if_false, C13.reapStepCfg, hd, Bool.not_true,
      Bool.false_and, hq]
    constructor
    · split <;> rfl
    · intro hl; simp [hl]
  · intro hw hs
    have hu : headUnstarted s = true := by unfold headUnstarted; rw [hq]; simp [hs]
    simp [step, reapStep, hu, hw]

end PsModel.C14
