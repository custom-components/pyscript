import PsModel.Model.C01Comp
/-! lemmas for the comprehension-scope theorems: lookups after `del` / `put`, and what save, the loops and restore keep -/
namespace PsModel.C01Comp

theorem get_cons (k : String) (s : Slot) (r : List (String × Slot)) (y : String) :
    get ((k, s) :: r) y = if k = y then some s else get r y := rfl

theorem get_del (t : List (String × Slot)) (x y : String) : get (del t x) y = if y = x then none else get t y := by
  induction t with
  | nil => exact (ite_self _).symm
  | cons p r ih =>
    obtain ⟨k, s⟩ := p
    by_cases hk : k = x
    · have e : del ((k, s) :: r) x = del r x := List.filter_cons_of_neg (by simpa using hk)
      rw [e, ih, get_cons]
      by_cases hy : y = x
      · rw [if_pos hy, if_pos hy]
      · rw [if_neg hy, if_neg hy, if_neg (fun h => hy (h.symm.trans hk))]
    · have e : del ((k, s) :: r) x = (k, s) :: del r x := List.filter_cons_of_pos (by simpa using hk)
      rw [e, get_cons, get_cons, ih]
      by_cases hky : k = y
      · rw [if_pos hky, if_pos hky, if_neg (fun h => hk (hky.trans h))]
      · rw [if_neg hky, if_neg hky]

theorem get_put (t : List (String × Slot)) (x : String) (s : Slot) (y : String) :
    get (put t x s) y = if y = x then some s else get t y := by
  rw [put, get_cons, get_del]
  by_cases h : y = x
  · rw [if_pos h.symm, if_pos h]
  · rw [if_neg (fun e => h e.symm), if_neg h, if_neg h]

def NoCell (t : List (String × Slot)) (lv : List String) : Prop := ∀ x ∈ lv, ∀ i, get t x ≠ some (.cell i)

/-- what `loopvar_scope_save` establishes and every assignment to a loop variable keeps, `f0` being the frame before the
comprehension: no loop variable writes through to a cell, the cells and the entries of the other names are those of `f0` -/
def Inv (f0 : Frame) (lv : List String) (f : Frame) : Prop :=
  NoCell f.tbl lv ∧ f.cells = f0.cells ∧ ∀ y, y ∉ lv → get f.tbl y = get f0.tbl y

theorem get_savedOf (t : List (String × Slot)) (lv : List String) (x : String) :
    get (savedOf t lv) x = if x ∈ lv then get t x else none := by
  induction lv with
  | nil => simp [savedOf, get]
  | cons y r ih =>
    simp only [savedOf]
    cases hy : get t y with
    | none =>
      rw [ih]
      by_cases hx : x = y
      · subst hx; simp [hy]
      · simp [hx]
    | some s =>
      simp only [get]
      by_cases hx : y = x
      · subst hx; simp [hy]
      · have hx' : ¬ x = y := fun e => hx e.symm
        simp [hx, hx', ih]

/-- hiding one saved cell entry: the name no longer has a cell entry, the other names keep theirs -/
theorem hide_step (cells : List (Option Nat)) (t : List (String × Slot)) (x : String) (j : Nat) :
    (∀ i, get (match (cells[j]?).join with | some v => put t x (.plain v) | none => del t x) x ≠ some (.cell i)) ∧
    ∀ y, y ≠ x → get (match (cells[j]?).join with | some v => put t x (.plain v) | none => del t x) y = get t y := by
  cases (cells[j]?).join with
  | some v =>
    refine ⟨fun i h => ?_, fun y hy => (get_put t x _ y).trans (if_neg hy)⟩
    rw [get_put, if_pos rfl] at h
    cases h
  | none =>
    refine ⟨fun i h => ?_, fun y hy => (get_del t x y).trans (if_neg hy)⟩
    rw [get_del, if_pos rfl] at h
    cases h

theorem hideCells_get_unsaved (cells : List (Option Nat)) (saved t : List (String × Slot)) (y : String)
    (h : get saved y = none) : get (hideCells cells t saved) y = get t y := by
  induction saved generalizing t with
  | nil => rfl
  | cons p r ih =>
    obtain ⟨x, s⟩ := p
    rw [get_cons] at h
    have hyx : y ≠ x := fun e => by rw [if_pos e.symm] at h; cases h
    rw [if_neg (fun e => hyx e.symm)] at h
    cases s with
    | plain v => exact ih t h
    | cell j => exact (ih _ h).trans ((hide_step cells t x j).2 y hyx)

theorem hideCells_cell (cells : List (Option Nat)) (saved t : List (String × Slot)) (y : String) (i : Nat)
    (h : get (hideCells cells t saved) y = some (.cell i)) : get t y = some (.cell i) := by
  induction saved generalizing t with
  | nil => exact h
  | cons p r ih =>
    obtain ⟨x, s⟩ := p
    cases s with
    | plain v => exact ih t h
    | cell j =>
      by_cases hyx : y = x
      · subst hyx
        exact absurd (ih _ h) ((hide_step cells t y j).1 i)
      · exact ((hide_step cells t x j).2 y hyx).symm.trans (ih _ h)

theorem hideCells_saved_cell (cells : List (Option Nat)) (saved t : List (String × Slot)) (x : String) (i j : Nat)
    (h : get saved x = some (.cell j)) : get (hideCells cells t saved) x ≠ some (.cell i) := by
  induction saved generalizing t with
  | nil => cases h
  | cons p r ih =>
    obtain ⟨k, s⟩ := p
    rw [get_cons] at h
    by_cases hk : k = x
    · rw [if_pos hk] at h
      obtain rfl : s = .cell j := Option.some.inj h
      subst hk
      exact fun hc => (hide_step cells t k j).1 i (hideCells_cell cells r _ k i hc)
    · rw [if_neg hk] at h
      cases s with
      | plain v => exact ih t h
      | cell j' => exact ih _ h

theorem save_inv (f : Frame) (lv : List String) : Inv f lv (save true f lv).1 := by
  refine ⟨fun x hx i hc => ?_, rfl, fun y hy => ?_⟩
  · have h0 : get f.tbl x = some (.cell i) := hideCells_cell f.cells (savedOf f.tbl lv) f.tbl x i hc
    exact hideCells_saved_cell f.cells (savedOf f.tbl lv) f.tbl x i i (by rw [get_savedOf, if_pos hx, h0]) hc
  · exact hideCells_get_unsaved f.cells (savedOf f.tbl lv) f.tbl y (by rw [get_savedOf, if_neg hy])

theorem assign_plain {f : Frame} {lv : List String} (hn : NoCell f.tbl lv) {x : String} (hx : x ∈ lv) (v : Nat) :
    assign f x v = { f with tbl := put f.tbl x (.plain v) } := by
  unfold assign
  cases hg : get f.tbl x with
  | none => rfl
  | some s => cases s with
    | plain w => rfl
    | cell i => exact absurd hg (hn x hx i)

theorem assign_inv {f0 f : Frame} {lv : List String} (h : Inv f0 lv f) {x : String} (hx : x ∈ lv) (v : Nat) :
    Inv f0 lv (assign f x v) := by
  obtain ⟨hn, hc, ho⟩ := h
  rw [assign_plain hn hx]
  refine ⟨fun z hz i => ?_, hc, fun y hy => ?_⟩
  · show get (put f.tbl x (.plain v)) z ≠ _
    rw [get_put]
    by_cases hzx : z = x
    · rw [if_pos hzx]; exact fun h => by cases h
    · rw [if_neg hzx]; exact hn z hz i
  · exact (get_put f.tbl x _ y).trans ((if_neg fun (e : y = x) => hy (e ▸ hx)).trans (ho y hy))

theorem bindIter_inv {f0 f : Frame} {lv : List String} (xs : List String) (vs : List Nat) (hs : ∀ x ∈ xs, x ∈ lv)
    (h : Inv f0 lv f) : Inv f0 lv (bindIter f xs vs) := by
  induction xs generalizing vs f with
  | nil => exact h
  | cons x r ih =>
    cases vs with
    | nil => exact h
    | cons v vr =>
      exact ih vr (fun z hz => hs z (List.mem_cons_of_mem _ hz)) (assign_inv h (hs x List.mem_cons_self) v)

theorem loops_inv {f0 f : Frame} (lv : List String) (iters : List (List Nat)) (h : Inv f0 lv f) :
    Inv f0 lv (loops f lv iters) := by
  induction iters generalizing f with
  | nil => exact h
  | cons vals r ih => exact ih (bindIter_inv lv vals (fun _ h => h) h)

theorem restore_notin (saved : List (String × Slot)) (xs : List String) (t : List (String × Slot)) (y : String)
    (hy : y ∉ xs) : get (restore t saved xs) y = get t y := by
  induction xs generalizing t with
  | nil => rfl
  | cons x r ih =>
    have hy := not_or.1 (mt List.mem_cons.2 hy)
    refine (ih _ hy.2).trans ?_
    cases get saved x with
    | some s => exact (get_put t x s y).trans (if_neg hy.1)
    | none => exact (get_del t x y).trans (if_neg hy.1)

theorem restore_in (saved : List (String × Slot)) (xs : List String) (t : List (String × Slot)) (x : String)
    (hnd : xs.Nodup) (hx : x ∈ xs) : get (restore t saved xs) x = get saved x := by
  induction xs generalizing t with
  | nil => cases hx
  | cons y r ih =>
    have hnd := List.nodup_cons.1 hnd
    rcases List.mem_cons.1 hx with rfl | hx
    · refine (restore_notin saved r _ x hnd.1).trans ?_
      cases hg : get saved x with
      | some s => exact (get_put t x s x).trans (if_pos rfl)
      | none => exact (get_del t x x).trans (if_pos rfl)
    · exact ih _ hnd.2 hx

end PsModel.C01Comp
