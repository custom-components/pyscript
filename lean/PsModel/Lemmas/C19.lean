import PsModel.Model.C19Sched
import PsModel.Spec.C19
/-! The ZMTP framing (big-endian lengths, the chunked reader against the flat reference reader, one frame, one message),
what the shell step sends, and one step of an activation and one write of a sender under the scheduler. -/
namespace PsModel.C19
open PsModel.Gen

theorem be_length (k n : Nat) : (be k n).length = k := by
  induction k with
  | zero => rfl
  | succ k ih => simp only [be, List.length_cons, ih]

theorem be_lt (k n : Nat) : ∀ b ∈ be k n, b < 256 := by
  induction k with
  | zero => intro b hb; cases hb
  | succ k ih =>
    intro b hb
    rcases List.mem_cons.1 hb with rfl | h
    · exact Nat.mod_lt _ (by decide)
    · exact ih b h

theorem unbe_cons (b : Nat) (bs : Bytes) : unbe (b :: bs) = b * 256 ^ bs.length + unbe bs := by
  have gen (bs : Bytes) (a : Nat) : bs.foldl (fun acc b => acc * 256 + b) a = a * 256 ^ bs.length + unbe bs := by
    induction bs generalizing a with
    | nil => simp [unbe]
    | cons c cs ih =>
      simp only [unbe, List.foldl_cons, List.length_cons, Nat.pow_succ]
      rw [ih (a * 256 + c), ih (0 * 256 + c), Nat.zero_mul, Nat.zero_add, Nat.add_mul, Nat.mul_assoc,
        Nat.mul_comm 256, Nat.add_assoc]
  simpa [unbe] using gen bs (0 * 256 + b)

theorem unbe_single (b : Nat) : unbe [b] = b := Nat.zero_add b

theorem unbe_be (k n : Nat) : unbe (be k n) = n % 256 ^ k := by
  induction k with
  | zero => simp [be, unbe, Nat.mod_one]
  | succ k ih =>
    rw [be, unbe_cons, be_length, ih, Nat.pow_succ, Nat.mod_mul, Nat.mul_comm (256 ^ k)]
    omega

theorem takeN_append (a b : Bytes) (n : Nat) (h : n = a.length) : takeN n (a ++ b) = some (a, b) := by
  subst h
  rw [takeN, if_pos (by rw [List.length_append]; exact Nat.le_add_right _ _), List.take_left, List.drop_left]

theorem takeN_append_le (d b : Bytes) (k : Nat) (h : d.length ≤ k) :
    takeN k (d ++ b) = (takeN (k - d.length) b).map (Prod.map (d ++ ·) id) := by
  have hk : k ≤ (d ++ b).length ↔ k - d.length ≤ b.length := by
    rw [List.length_append, Nat.sub_le_iff_le_add']
  unfold takeN
  by_cases hb : k - d.length ≤ b.length
  · rw [if_pos hb, if_pos (hk.2 hb), List.take_append, List.drop_append, List.take_of_length_le h,
      List.drop_of_length_le h]
    rfl
  · rw [if_neg hb, if_neg (mt hk.1 hb)]
    rfl

theorem readChunk_spec (k : Nat) (hk : 0 < k) (cs : List Bytes) :
    match readChunk k cs with
    | none => cs.flatten = []
    | some (d, cs') => d ≠ [] ∧ d.length ≤ k ∧ d ++ cs'.flatten = cs.flatten := by
  induction cs with
  | nil => rfl
  | cons c cs ih =>
    unfold readChunk
    by_cases h0 : c.length = 0
    · obtain rfl := List.eq_nil_of_length_eq_zero h0
      exact ih
    · have hc : c ≠ [] := fun e => h0 (by rw [e]; rfl)
      rw [if_neg h0]
      by_cases hle : c.length ≤ k
      · rw [if_pos hle]; exact ⟨hc, hle, rfl⟩
      · rw [if_neg hle]
        refine ⟨fun e => ?_, List.length_take_le k c, ?_⟩
        · rcases List.take_eq_nil_iff.1 e with e | e
          · omega
          · exact hc e
        · rw [List.flatten_cons, ← List.append_assoc, List.take_append_drop]; rfl

theorem readLoop_flat (fuel n : Nat) (acc : Bytes) (cs : List Bytes) (hf : n ≤ acc.length + fuel) :
    (readLoop fuel n acc cs).map (Prod.map id List.flatten) =
      (takeN (n - acc.length) cs.flatten).map (Prod.map (acc ++ ·) id) := by
  unfold readLoop
  by_cases hle : n ≤ acc.length
  · rw [if_pos hle, Nat.sub_eq_zero_of_le hle, takeN, if_pos (Nat.zero_le _)]
    exact congrArg (fun a => some (a, cs.flatten)) (List.append_nil acc).symm
  · rw [if_neg hle]
    match fuel with
    | 0 => exact absurd hf hle
    | f + 1 =>
      have hk : 0 < n - acc.length := Nat.sub_pos_of_lt (Nat.lt_of_not_le hle)
      have hc := readChunk_spec (n - acc.length) hk cs
      split at hc
      · next hnone => rw [hnone, hc, takeN, if_neg (show ¬ n - acc.length ≤ ([] : Bytes).length from Nat.not_le.2 hk)]; rfl
      · next d cs1 hsome =>
        obtain ⟨hd, hdk, hcat⟩ := hc
        have hf' : n ≤ (acc ++ d).length + f := by
          have := List.length_pos_iff.2 hd
          rw [List.length_append]; omega
        rw [hsome, ← hcat, takeN_append_le d _ _ hdk, Option.map_map]
        refine (readLoop_flat f n (acc ++ d) cs1 hf').trans ?_
        rw [List.length_append, Nat.sub_add_eq]
        exact congrArg (Option.map · _) (funext fun p => Prod.ext (List.append_assoc acc d p.1) rfl)

theorem readBytes_flat (n : Nat) (cs : List Bytes) :
    (readBytes n cs).map (Prod.map id List.flatten) = takeN n cs.flatten := by
  refine (readLoop_flat n n [] cs (Nat.le_add_left _ _)).trans ?_
  show Option.map (Prod.map id id) _ = _
  rw [Prod.map_id, Option.map_id]; rfl

/-- One read of a receiver over chunks against the same read of its flat reference, `F` flattening what is left unread:
the two agree if what they do on EOF and with the bytes read agree. -/
theorem read_flat {α β : Type} (F : α → β) (n : Nat) (cs : List Bytes) {e : α} {e' : β} {k : Bytes → List Bytes → α}
    {k' : Bytes → Bytes → β} (he : F e = e') (h : ∀ d cs', F (k d cs') = k' d cs'.flatten) :
    F (match readBytes n cs with | none => e | some (d, cs') => k d cs') =
      match takeN n cs.flatten with | none => e' | some (d, b) => k' d b := by
  rw [← readBytes_flat n cs]
  cases readBytes n cs with
  | none => exact he
  | some p => exact h p.1 p.2

theorem recvLoop_flat : ∀ (fuel : Nat) (parts : List Bytes) (cs : List Bytes),
    flatRes (recvLoop fuel parts cs) = recvFlat fuel parts cs.flatten := by
  intro fuel
  induction fuel with
  | zero => intro parts cs; rfl
  | succ f ih =>
    intro parts cs
    unfold recvLoop recvFlat
    refine read_flat flatRes 1 cs rfl fun c cs1 => ?_
    dsimp only
    rw [← apply_ite (readBytes · cs1), ← apply_ite (takeN · cs1.flatten)]
    refine read_flat flatRes _ cs1 rfl fun lb cs2 => ?_
    refine read_flat flatRes _ cs2 rfl fun body cs3 => ?_
    split
    · split
      · exact ih parts cs3
      · rfl
    · split
      · rfl
      · exact ih _ cs3

theorem recvMultipart_flat (cs : List Bytes) :
    flatRes (recvMultipart cs) = recvFlat (cs.flatten.length + 1) [] cs.flatten := by
  rw [recvMultipart, recvLoop_flat, totalLen, ← List.length_flatten]

theorem flatRes_ok {r : Except RecvErr (List Bytes × List Bytes)} {ps : List Bytes} {rest : Bytes}
    (h : flatRes r = .ok (ps, rest)) : ∃ cs, r = .ok (ps, cs) ∧ cs.flatten = rest := by
  match r, h with
  | .ok (_, cs), h => cases h; exact ⟨cs, rfl, rfl⟩

/-- One well-formed frame at the head of the stream: a flag byte, a length field of the width the flag announces holding
the body's length, the body.  The three reads succeed and the body is dispatched on the flag. -/
theorem recvFlat_header (fuel : Nat) (parts : List Bytes) (cmd : Nat) (lb body rest : Bytes)
    (hw : (if cmd / recvLongMask % 2 = 1 then recvLongLenBytes else 1) = lb.length) (hl : unbe lb = body.length) :
    recvFlat (fuel + 1) parts ([cmd] ++ (lb ++ (body ++ rest))) =
      if cmd / recvCmdMask % 2 = 1 then
        if cmdOk body then recvFlat fuel parts rest else .error .badCommand
      else if recvLastFlags.contains cmd then .ok (parts ++ [body], rest) else recvFlat fuel (parts ++ [body]) rest := by
  rw [recvFlat, takeN_append _ _ 1 rfl]
  simp only
  rw [List.headD_cons]
  rw [← apply_ite (takeN · (lb ++ (body ++ rest))), takeN_append _ _ _ hw]
  simp only [hl]
  rw [takeN_append _ _ _ rfl]

theorem encFrame_short (last : Bool) (p : Bytes) (h : p.length ≤ sendMultipartShortMax) :
    encFrame last p = [if last then flagLast else flagMore] ++ ([p.length] ++ p) := by
  rw [encFrame, if_pos h]; rfl

theorem encFrame_long (last : Bool) (p : Bytes) (h : ¬ p.length ≤ sendMultipartShortMax) :
    encFrame last p = [(if last then flagLast else flagMore) + flagLongInc] ++ (be sendLongLenBytes p.length ++ p) := by
  rw [encFrame, if_neg h]; exact List.append_assoc ..

theorem recvFlat_frame (fuel : Nat) (parts : List Bytes) (last : Bool) (p rest : Bytes)
    (hp : p.length < 2 ^ 64) :
    recvFlat (fuel + 1) parts (encFrame last p ++ rest) =
      if last then .ok (parts ++ [p], rest) else recvFlat fuel (parts ++ [p]) rest := by
  by_cases hs : p.length ≤ sendMultipartShortMax
  · rw [encFrame_short last p hs, List.append_assoc, List.append_assoc,
      recvFlat_header _ _ _ _ _ _ (by cases last <;> rfl) (unbe_single _)]
    cases last <;> rfl
  · rw [encFrame_long last p hs, List.append_assoc, List.append_assoc,
      recvFlat_header _ _ _ (be sendLongLenBytes p.length) _ _ (by rw [be_length]; cases last <;> rfl) ((unbe_be sendLongLenBytes _).trans (Nat.mod_eq_of_lt hp))]
    cases last <;> rfl

theorem recvFlat_multipart : ∀ (ps : List Bytes) (fuel : Nat) (parts : List Bytes) (rest : Bytes),
    ps ≠ [] → (∀ p ∈ ps, p.length < 2 ^ 64) → ps.length ≤ fuel →
    recvFlat fuel parts (encodeMultipart ps ++ rest) = .ok (parts ++ ps, rest) := by
  intro ps
  induction ps with
  | nil => intro _ _ _ h; exact absurd rfl h
  | cons p qs ih =>
    intro fuel parts rest _ hlen hf
    obtain ⟨f, rfl⟩ : ∃ f, fuel = f + 1 := ⟨fuel - 1, by rw [List.length_cons] at hf; omega⟩
    have hp := hlen p List.mem_cons_self
    cases qs with
    | nil => rw [encodeMultipart, recvFlat_frame f parts true p rest hp]; rfl
    | cons q rs =>
      rw [encodeMultipart, List.append_assoc, recvFlat_frame f parts false p _ hp]
      simp only [Bool.false_eq_true, if_false]
      rw [ih f (parts ++ [p]) rest (List.cons_ne_nil _ _) (fun x hx => hlen x (List.mem_cons_of_mem _ hx))
        (Nat.le_of_succ_le_succ hf), List.append_assoc]
      rfl

/-- every frame occupies at least one byte, so a stream's length is enough fuel to decode it -/
theorem length_le_encodeMultipart (ps : List Bytes) : ps.length ≤ (encodeMultipart ps).length := by
  have pos (last : Bool) (p : Bytes) : 0 < (encFrame last p).length := by
    by_cases h : p.length ≤ sendMultipartShortMax
    · rw [encFrame_short last p h]; exact Nat.succ_pos _
    · rw [encFrame_long last p h]; exact Nat.succ_pos _
  match ps with
  | [] => exact Nat.le_refl _
  | [p] => exact pos true p
  | p :: q :: rest =>
    rw [encodeMultipart, List.length_append, List.length_cons, Nat.add_comm]
    exact Nat.add_le_add (pos false p) (length_le_encodeMultipart (q :: rest))

theorem recvMultipart_roundtrip (ps : List Bytes) (rest : Bytes) (chunks : List Bytes)
    (hne : ps ≠ []) (hlen : ∀ p ∈ ps, p.length < 2 ^ 64) (hchunks : chunks.flatten = encodeMultipart ps ++ rest) :
    ∃ cs, recvMultipart chunks = .ok (ps, cs) ∧ cs.flatten = rest := by
  apply flatRes_ok
  rw [recvMultipart_flat, hchunks]
  refine recvFlat_multipart ps _ [] rest hne hlen (Nat.le_succ_of_le ?_)
  rw [List.length_append]
  exact Nat.le_trans (length_le_encodeMultipart ps) (Nat.le_add_right _ _)

theorem encodeSingle_eq (m : Bytes) : encodeSingle m = encodeMultipart [[], m] := by
  rw [encodeSingle, encodeMultipart, encodeMultipart, encFrame_short false [] (Nat.zero_le _)]
  by_cases h : m.length ≤ sendShortMax
  · rw [if_pos h, encFrame_short true m h]; rfl
  · rw [if_neg h, encFrame_long true m h]; rfl

theorem recvSingle_roundtrip (m rest : Bytes) (chunks : List Bytes) (hm : m.length < 2 ^ 64)
    (hchunks : chunks.flatten = encodeSingle m ++ rest) :
    ∃ cs, recvSingle chunks = .ok (m, cs) ∧ cs.flatten = rest := by
  obtain ⟨cs, h, hr⟩ := recvMultipart_roundtrip [[], m] rest chunks (List.cons_ne_nil _ _)
    (List.forall_mem_cons.2 ⟨Nat.two_pow_pos 64, List.forall_mem_cons.2 ⟨hm, nofun⟩⟩)
    (by rw [hchunks, encodeSingle_eq])
  exact ⟨cs, by rw [recvSingle, h]; exact congrArg (fun x => Except.ok (x, cs)) (List.append_nil m), hr⟩

theorem handleValid_state (run : Nat → CellResult) (s : KState) (r : Request) :
    (handleValid run s r).1 =
      if r.mtype = .execute then
        { s with parentHeader := some r.header, executed := s.executed ++ [r.cell], count := bump s r }
      else { s with parentHeader := some r.header } := by
  unfold handleValid
  cases r.mtype
  case execute => cases run r.cell <;> rfl
  all_goals rfl

/-- A list of messages as `shell_handler` builds them for request `r`: broadcasts through `iopub` and replies through
`reply`, whose execution counts are collected in the index.  Parent header, key and addressing of everything sent follow
from the two constructors. -/
inductive Sends (r : Request) : List (Option Nat) → List Out → Prop
  | nil : Sends r [] []
  | iopub {cs l ty c p} : Sends r cs l → Sends r cs (iopub r ty c p :: l)
  | reply {cs l ty c p} : Sends r cs l → Sends r (c :: cs) (reply r ty c p :: l)

theorem Sends.mem {r : Request} {cs : List (Option Nat)} {l : List Out} (h : Sends r cs l) :
    ∀ o ∈ l, o.parent = r.header ∧ o.signedWithKey = true ∧ (o.stream = "shell" → o.idents = r.idents) := by
  induction h with
  | nil => intro o ho; cases ho
  | iopub _ ih => exact List.forall_mem_cons.2 ⟨⟨rfl, rfl, fun e => absurd e (show "iopub" ≠ "shell" by decide)⟩, ih⟩
  | reply _ ih => exact List.forall_mem_cons.2 ⟨⟨rfl, rfl, fun _ => rfl⟩, ih⟩

theorem Sends.replies {r : Request} {cs : List (Option Nat)} {l : List Out} (h : Sends r cs l) :
    (l.filter (fun o => o.stream = "shell")).map (·.count) = cs := by
  induction h with
  | nil => rfl
  | iopub _ ih => exact ih
  | reply _ ih => exact congrArg (_ :: ·) ih

theorem handleValid_sends (run : Nat → CellResult) (s : KState) (r : Request) :
    Sends r (match r.mtype with | .comm | .unknown => [] | .execute => [some s.count] | _ => [none]) (handleValid run s r).2 ∧
      (handleValid run s r).2.head? = some (iopub r "status:busy") ∧
      (handleValid run s r).2.getLast? = some (iopub r "status:idle") := by
  unfold handleValid
  cases r.mtype
  case execute =>
    cases run r.cell
    · exact ⟨.iopub (.iopub (.iopub (.reply (.iopub .nil)))), rfl, rfl⟩
    · exact ⟨.iopub (.iopub (.reply (.iopub .nil))), rfl, rfl⟩
    · exact ⟨.iopub (.iopub (.reply (.iopub (.iopub .nil)))), rfl, rfl⟩
  case comm | unknown => exact ⟨.iopub (.iopub .nil), rfl, rfl⟩
  all_goals exact ⟨.iopub (.reply (.iopub .nil)), rfl, rfl⟩

theorem stepAct_explicit (shared : Nat) (a : Activation) : ∀ m ∈ (stepAct true shared a).2.2, m.1 = m.2 := by
  rw [stepAct]
  by_cases h0 : a.pc = 0
  · rw [if_pos h0]; exact fun _ h => nomatch h
  · rw [if_neg h0]
    by_cases h1 : a.pc ≤ a.sends
    · rw [if_pos h1]
      intro m hm
      rw [List.mem_singleton.1 hm]
      rfl
    · rw [if_neg h1]; exact fun _ h => nomatch h

theorem wire_write {pending : List (List Bytes)} {i : Nat} {w : Bytes} {ws : List Bytes} (sched : List Nat)
    (h : pending[i]? = some (w :: ws)) : wire pending (i :: sched) = w ++ wire (pending.set i ws) sched := by
  rw [wire, h]

theorem wire_skip {pending : List (List Bytes)} {i : Nat} (sched : List Nat)
    (h : pending[i]? = some [] ∨ pending[i]? = none) : wire pending (i :: sched) = wire pending sched := by
  rcases h with h | h <;> rw [wire, h]

end PsModel.C19
