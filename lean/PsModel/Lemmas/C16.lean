import PsModel.Model.C16
import PsModel.Spec.C16
/-! Association lists denote functions; every entry point of `state.py` commutes
with that abstraction; the name lookup of `ast_name` tag by tag and what it gives for names of one, two and three parts;
what a script step can do to the store and to the captured snapshots. -/
namespace PsModel.C16
open PsModel.Gen

theorem getD_ite {α : Type} (c : Prop) [Decidable c] (x y : Option α) (b : α) :
    (if c then x else y).getD b = if c then x.getD b else y.getD b :=
  apply_ite (·.getD b) c x y

section assoc
variable {κ : Type} {α : Type} [DecidableEq κ]

theorem aget_aset (k k' : κ) (v : α) (d : List (κ × α)) :
    aget k' (aset k v d) = if k' = k then some v else aget k' d := by
  induction d with
  | nil => simp only [aset, aget, eq_comm]
  | cons p r ih =>
    by_cases hk : k' = k
    · subst hk; by_cases hp : p.1 = k' <;> simp [aset, aget, hp, ih]
    · by_cases hp : p.1 = k
      · simp [aset, aget, hp, hk, Ne.symm hk]
      · simp [aset, aget, hp, hk, ih]

theorem aget_aset_same (k : κ) (v : α) (d : List (κ × α)) : aget k (aset k v d) = some v := by
  rw [aget_aset, if_pos rfl]

theorem aget_aset_other (k k' : κ) (v : α) (d : List (κ × α)) (h : k' ≠ k) :
    aget k' (aset k v d) = aget k' d := by
  rw [aget_aset, if_neg h]

theorem aget_adel (k k' : κ) (d : List (κ × α)) :
    aget k' (adel k d) = if k' = k then none else aget k' d := by
  induction d with
  | nil => simp [adel, aget]
  | cons p r ih =>
    unfold adel at ih ⊢
    by_cases hk : k' = k
    · subst hk; by_cases hp : p.1 = k' <;> simp_all [aget]
    · by_cases hp : p.1 = k <;> simp_all [aget, Ne.symm hk]

theorem aget_adel_same (k : κ) (d : List (κ × α)) : aget k (adel k d) = none := by
  rw [aget_adel, if_pos rfl]

theorem aget_adel_other (k k' : κ) (d : List (κ × α)) (h : k' ≠ k) : aget k' (adel k d) = aget k' d := by
  rw [aget_adel, if_neg h]

theorem mem_keys_iff (k : κ) (d : List (κ × α)) : k ∈ d.map (·.1) ↔ (aget k d).isSome = true := by
  induction d with
  | nil => simp [aget]
  | cons p r ih =>
    by_cases h : p.1 = k
    · simp [aget, h]
    · simp only [List.map_cons, List.mem_cons, aget, h, if_false]
      constructor
      · rintro (e | e)
        · exact absurd e.symm h
        · exact ih.mp e
      · intro e; exact Or.inr (ih.mpr e)

theorem keys_nodup_aset (k : κ) (v : α) (d : List (κ × α)) (h : (d.map (·.1)).Nodup) :
    ((aset k v d).map (·.1)).Nodup := by
  induction d with
  | nil => simp [aset]
  | cons p r ih =>
    simp only [List.map_cons, List.nodup_cons] at h
    by_cases hp : p.1 = k
    · simp only [aset, hp, if_true, List.map_cons, List.nodup_cons]
      rw [← hp]; exact h
    · simp only [aset, hp, if_false, List.map_cons, List.nodup_cons]
      refine ⟨?_, ih h.2⟩
      intro hm
      rw [mem_keys_iff] at hm
      rw [aget_aset_other _ _ _ _ hp] at hm
      exact h.1 ((mem_keys_iff _ _).mpr hm)

theorem keys_nodup_adel (k : κ) (d : List (κ × α)) (h : (d.map (·.1)).Nodup) :
    ((adel k d).map (·.1)).Nodup := by
  unfold adel
  exact (List.Nodup.sublist (List.Sublist.map _ List.filter_sublist) h)

end assoc

theorem fupd_same {κ β : Type} [DecidableEq κ] (f : κ → β) (k : κ) (v : β) : fupd f k v k = v := by simp [fupd]
theorem fupd_other {κ β : Type} [DecidableEq κ] (f : κ → β) (k k' : κ) (v : β) (h : k' ≠ k) :
    fupd f k v k' = f k' := by simp [fupd, h]

theorem abs_aset (k : String) (v : Val) (d : Attrs) : absAttrs (aset k v d) = fupd (absAttrs d) k (some v) :=
  funext fun a => aget_aset k a v d

theorem abs_adel (k : String) (d : Attrs) : absAttrs (adel k d) = fupd (absAttrs d) k none :=
  funext fun a => aget_adel k a d

theorem absStore_aset (e : Ent) (r : Rec) (st : Store) :
    absStore (aset e r st) = fupd (absStore st) e (some (absRec r)) := by
  funext x; simp only [absStore, fupd, aget_aset]; split <;> rfl

theorem absStore_adel (e : Ent) (st : Store) : absStore (adel e st) = fupd (absStore st) e none := by
  funext x; simp only [absStore, fupd, aget_adel]; split <;> rfl

theorem absStore_apply (st : Store) (e : Ent) : absStore st e = (aget e st).map absRec := rfl

theorem abs_dupdate (kw d : Attrs) : absAttrs (dupdate d kw) = merge kw (absAttrs d) := by
  unfold dupdate merge
  induction kw generalizing d with
  | nil => rfl
  | cons p r ih => simp only [List.foldl_cons]; rw [ih, abs_aset]

theorem abs_mergeKw (a kw : Attrs) : absAttrs (mergeKw a kw) = merge kw (absAttrs a) := by
  unfold mergeKw
  cases kw with
  | nil => simp [merge]
  | cons p r => simp [abs_dupdate]

theorem abs_dpopAll (ks : List String) (d : Attrs) :
    absAttrs (dpopAll ks d) = fun a => if a ∈ ks then none else absAttrs d a := by
  unfold dpopAll
  induction ks generalizing d with
  | nil => funext a; simp
  | cons k r ih =>
    simp only [List.foldl_cons]
    rw [ih, abs_adel]
    funext a
    by_cases h1 : a ∈ r
    · simp [h1]
    · by_cases h2 : a = k <;> simp [h1, h2, fupd]

theorem aget_setFields (e : Ent) (fs : List String) (d : Attrs) (a : String) :
    aget a (fs.foldl (fun d f => aset f (virtVal e f) d) d) = if a ∈ fs then some (virtVal e a) else aget a d := by
  induction fs generalizing d with
  | nil => simp
  | cons f r ih =>
    simp only [List.foldl_cons]
    rw [ih]
    by_cases h1 : a ∈ r
    · simp [h1]
    · by_cases h2 : a = f
      · subst h2; simp [h1, aget_aset_same]
      · simp [h1, h2, aget_aset_other _ _ _ _ h2]

/-- the fields written by `StateVal.__new__` are exactly the virtual fields of the property statement -/
theorem virtual_tables (a : String) : a ∈ STATEVAL_NEW_FIELDS ↔ a ∈ VIRTUAL := by
  simp only [STATEVAL_NEW_FIELDS, VIRTUAL, List.mem_cons, List.not_mem_nil, or_false]
  exact or_congr_right or_left_comm

/-- and so is the code's table `STATE_VIRTUAL_ATTRS` -/
theorem virtual_attrs_table (a : String) : a ∈ STATE_VIRTUAL_ATTRS ↔ a ∈ VIRTUAL := by
  simp only [STATE_VIRTUAL_ATTRS, VIRTUAL, List.mem_cons, List.not_mem_nil, or_false]
  exact or_congr_right (or_congr_right or_comm)

theorem abs_mkSnap (e : Ent) (r : Rec) : absSnap (mkSnap e r) = ⟨r.value, viewOf e (absRec r)⟩ := by
  simp only [absSnap, mkSnap, ASnap.mk.injEq, true_and]
  funext a
  simp only [absAttrs, ofList, viewOf, absRec, aget_setFields, virtual_tables]

theorem mkSnap_view (e : Ent) (r : Rec) (a : String) : aget a (mkSnap e r).dict = viewOf e (absRec r) a :=
  congrFun (congrArg ASnap.view (abs_mkSnap e r)) a

theorem abs_snapAttrs (s : Snap) : absAttrs (snapAttrs s) = attrsOfView (absAttrs s.dict) := by
  unfold snapAttrs attrsOfView
  simp only [abs_dpopAll, virtual_attrs_table]

/-- what `State.set` does to the dictionary, for every argument combination (StateVal included) -/
theorem setCore_abs (st : Store) (e : Ent) (value : Arg) (na : Option Attrs) (kw : Attrs) :
    absStore (setCore st e value na kw)
      = setRule (absStore st) e (argStr? value) ((svAttrs value na).map absAttrs) kw := by
  unfold setCore setRule
  rw [absStore_aset]
  congr 1
  simp only [absRec, abs_mergeKw]
  have hv : valueOf (absStore st) e = keepValue none (aget e st) := by
    simp only [valueOf, absStore_apply]
    cases aget e st <;> simp [keepValue, absRec]
  have ha : attrsOf (absStore st) e = absAttrs (keepAttrs none (aget e st)) := by
    simp only [attrsOf, absStore_apply]
    cases aget e st
    · funext a; simp [keepAttrs, noAttrs, absAttrs, ofList, aget]
    · simp [keepAttrs, absRec]
  cases h1 : argStr? value <;> cases h2 : svAttrs value na <;>
    simp [fetchOld, keepValue, keepAttrs, hv, ha]

/-! The entry points commute with the abstraction.

In each, an ill-shaped name is rejected on both sides, and on a well-shaped one both sides branch on the same lookup
`aget (d, n) st` (`absStore_apply`). -/

theorem stateExist_abs (env : Env) (st : Store) (parts : List String) :
    stateExist env st parts = Spec.exist env (absStore st) parts := by
  rcases parts with _ | ⟨d, _ | ⟨n, _ | ⟨a, _ | ⟨b, r⟩⟩⟩⟩ <;> try rfl
  · exact Option.isSome_map.symm
  · simp only [stateExist, Spec.exist, absStore_apply, List.contains_eq_mem, virtual_attrs_table]
    cases aget (d, n) st <;> rfl

theorem snapGetattr_abs (env : Env) (e : Ent) (r : Rec) (a : String) :
    absOut (snapGetattr (mkSnap e r) a) =
      (match viewOf e (absRec r) a with
       | some v => SOut.attr v
       | none => if methodAttr a then SOut.callable else SOut.exc "AttributeError") := by
  unfold snapGetattr
  rw [mkSnap_view]
  cases viewOf e (absRec r) a with
  | some v => rfl
  | none => cases methodAttr a <;> rfl

theorem stateGet_abs (env : Env) (st : Store) (parts : List String) :
    absOut (stateGet env st parts) = Spec.get env (absStore st) parts := by
  rcases parts with _ | ⟨d, _ | ⟨n, _ | ⟨a, _ | ⟨b, r⟩⟩⟩⟩ <;> try rfl
  all_goals
    simp only [stateGet, Spec.get, absStore_apply]
    cases aget (d, n) st with
    | none => rfl
    | some r => ?_
  · exact congrArg SOut.sv (abs_mkSnap (d, n) r)
  · cases env.svcMethod d a with
    | true => rfl
    | false => exact snapGetattr_abs env _ _ _

theorem stateGetattr_abs (st : Store) (parts : List String) :
    absOut (stateGetattr st parts) = Spec.getattr (absStore st) parts := by
  rcases parts with _ | ⟨d, _ | ⟨n, _ | ⟨a, r⟩⟩⟩ <;> try rfl
  simp only [stateGetattr, Spec.getattr, absStore_apply]
  cases aget (d, n) st <;> rfl

theorem stateNames_abs (st : Store) (dom : Option String) :
    absOut (.names (stateNames st dom)) = .names (Spec.names (absStore st) dom) := by
  simp only [absOut, SOut.names.injEq]
  funext e
  simp only [stateNames, Spec.names, List.mem_filter, absStore_apply, Option.isSome_map]
  rw [Bool.eq_iff_iff]
  simp only [decide_eq_true_eq, Bool.and_eq_true]
  rw [mem_keys_iff]
  exact Iff.rfl

theorem stateDelete_abs (st : Store) (parts : List String) :
    (absStore (stateDelete st parts).1, absOut (stateDelete st parts).2) = Spec.delete (absStore st) parts := by
  rcases parts with _ | ⟨d, _ | ⟨n, _ | ⟨a, _ | ⟨b, r⟩⟩⟩⟩ <;> try rfl
  all_goals
    simp only [stateDelete, Spec.delete, absStore_apply]
    cases aget (d, n) st with
    | none => rfl
    | some r => ?_
  · exact congrArg (·, SOut.unit) (absStore_adel (d, n) st)
  · simp only [Option.map_some, absRec, absAttrs, ofList]
    cases aget a r.attrs with
    | none => rfl
    | some _ =>
      -- deleting an attribute is `State.set` with the value as it is and the attributes without `a`
      show (absStore (setCore _ _ _ _ _), _) = _
      rw [setCore_abs]
      exact congrArg (fun f => (fupd (absStore st) (d, n) (some ⟨r.value, f⟩), SOut.unit)) (abs_adel a r.attrs)

theorem setCore_none {st : Store} {e : Ent} {r : Rec} (h : aget e st = some r) (na : Option Attrs) (kw : Attrs) :
    setCore st e .none na kw = aset e ⟨r.value, mergeKw (keepAttrs na (some r)) kw⟩ st := by
  simp only [setCore, argStr?, svAttrs, fetchOld, Option.isNone_none, Bool.true_or, if_true, h, keepValue]

/-- on an existing entity `State.setattr` writes that one attribute, whichever way it calls `State.set` -/
theorem stateSetattr_eq {fx : Fixes} {env : Env} {st : Store} {d n : String} {r : Rec} (a : String) (v : Val)
    (h : aget (d, n) st = some r) (hr : fx.setattrDict = true ∨ reserved a = false) :
    stateSetattr fx env st [d, n, a] v = (aset (d, n) ⟨r.value, aset a v r.attrs⟩ st, .unit) := by
  cases hf : fx.setattrDict with
  | true => simp only [stateSetattr, h, hf, if_true, setCore_none h]; rfl
  | false =>
    have hr : STATE_SET_PARAMS.contains a = false := hr.resolve_left (by simp [hf])
    simp only [stateSetattr, h, hf, hr, Bool.false_eq_true, if_false, Bool.not_false, if_true, setCore_none h]; rfl

theorem stateSetattr_abs {fx : Fixes} {env : Env} (st : Store) (parts : List String) (v : Val)
    (hc : Conf fx env (.setattr parts v) = true) :
    (absStore (stateSetattr fx env st parts v).1, absOut (stateSetattr fx env st parts v).2)
      = Spec.setattr (absStore st) parts v := by
  rcases parts with _ | ⟨d, _ | ⟨n, _ | ⟨a, _ | ⟨b, r⟩⟩⟩⟩ <;> try rfl
  simp only [Conf, Bool.or_eq_true, Bool.not_eq_true'] at hc
  cases h2 : aget (d, n) st with
  | none => simp only [stateSetattr, Spec.setattr, absStore_apply, h2]; rfl
  | some r =>
    rw [stateSetattr_eq a v h2 hc, absStore_aset]
    simp only [Spec.setattr, setRule, valueOf, attrsOf, absStore_apply, h2, absRec, abs_aset]; rfl

theorem stateSet_abs (st : Store) (parts : List String) (value : Arg) (na : Option Attrs) (kw : Attrs)
    (h : (∀ s, value ≠ .sv s) ∨ na ≠ none) :
    (absStore (stateSet st parts value na kw).1, absOut (stateSet st parts value na kw).2)
      = Spec.set (absStore st) parts (argStr? value) na kw := by
  rcases parts with _ | ⟨d, _ | ⟨n, _ | ⟨a, r⟩⟩⟩ <;> try rfl
  have hsv : svAttrs value na = na := by
    cases value <;> cases na <;> first | rfl | exact (h.elim (fun h => h _ rfl) (fun h => h rfl)).elim
  simp only [stateSet, Spec.set, absOut]
  rw [setCore_abs, hsv]
  cases na <;> rfl

section lookup
variable (env : Env) (st : Store) (id : List String)

theorem firstHit_nil : firstHit env st id [] = .evalName := rfl

theorem firstHit_cons (t : String) (ts : List String) :
    firstHit env st id (t :: ts) = (lookupStep env st id t).getD (firstHit env st id ts) := by
  rw [firstHit]; cases lookupStep env st id t <;> rfl

theorem lookupStep_enclosing : lookupStep env st id "enclosing_func" = none := by
  unfold lookupStep
  simp only [String.reduceEq, ↓reduceIte]

theorem lookupStep_function : lookupStep env st id "function" =
    if id ∈ env.functions then some .callable
    else match id with
      | [d, n] => if (d, n) ∈ env.services then some .callable else none
      | _ => none := by
  unfold lookupStep
  simp only [String.reduceEq, ↓reduceIte, List.contains_iff_mem]; rfl

theorem lookupStep_state : lookupStep env st id "state" =
    if id.length = 2 || (id.length = 3 && stateExist env st id) then some (stateGet env st id) else none := by
  unfold lookupStep
  simp only [String.reduceEq, ↓reduceIte]

end lookup

theorem simpleEnv_empty : SimpleEnv {} := ⟨nofun, nofun⟩

theorem envOK_empty : EnvOK {} := ⟨nofun, nofun⟩

theorem astNameLoad_eq (env : Env) (st : Store) (id : List String) : astNameLoad env st id =
    if id ∈ env.globalDecl then (if id ∈ env.globalSym then .py "global" else .exc "NameError")
    else if id ∈ env.sym then .py "local"
    else if id ∈ env.localSym then .py "astfunc"
    else if id ∈ env.globalSym then (if id ∈ env.localNames then .exc "UnboundLocalError" else .py "global")
    else if id ∈ env.builtinAst then .py "builtin"
    else if id ∈ env.builtins then .py "builtin"
    else firstHit env st id ["function", "state"] := by
  simp only [astNameLoad, NAME_LOOKUP_ORDER, firstHit_cons, lookupStep, String.reduceEq, ↓reduceIte,
    List.contains_iff_mem, getD_ite, Option.getD_some, Option.getD_none]

theorem astNameLoad_not_var {env : Env} (hs : SimpleEnv env) (st : Store) {id : List String} (hl : id.length ≠ 1) :
    astNameLoad env st id = firstHit env st id ["function", "state"] := by
  have : id ∉ pyTables env := fun hm => hl (hs.1 id hm)
  simp only [pyTables, List.mem_append, not_or] at this
  obtain ⟨⟨⟨⟨⟨⟨h1, h2⟩, h3⟩, h4⟩, -⟩, h6⟩, h7⟩ := this
  rw [astNameLoad_eq, if_neg h1, if_neg h2, if_neg h3, if_neg h4, if_neg h6, if_neg h7]

theorem astNameLoad_two {env : Env} (hs : SimpleEnv env) (st : Store) (d n : String) :
    astNameLoad env st [d, n] = if callableName env d n then .callable else stateGet env st [d, n] := by
  rw [astNameLoad_not_var hs st (by simp)]
  simp only [firstHit_cons, firstHit_nil, lookupStep_function, lookupStep_state, callableName]
  by_cases hf : [d, n] ∈ env.functions
  · simp [hf]
  · by_cases hsv : (d, n) ∈ env.services <;> simp [hf, hsv]

theorem astNameLoad_three {env : Env} (hs : SimpleEnv env) (st : Store) (d n a : String) :
    astNameLoad env st [d, n, a] =
      if stateExist env st [d, n, a] then stateGet env st [d, n, a] else .evalName := by
  have hf : [d, n, a] ∉ env.functions := fun hm => by simpa using hs.2 _ hm
  rw [astNameLoad_not_var hs st (by simp)]
  simp only [firstHit_cons, firstHit_nil, lookupStep_function, lookupStep_state, hf, if_false]
  by_cases he : stateExist env st [d, n, a] = true <;> simp [he]

/-- `EnvOK` is what rules out the two error outcomes of `ast_name` for a bare name -/
theorem astNameLoad_one {env : Env} (hs : SimpleEnv env) (hok : EnvOK env) (st : Store) (h : String) :
    astNameLoad env st [h] = match pyVarSrc env h with | some src => .py src | none => .evalName := by
  have hf : [h] ∉ env.functions := fun hm => by simpa using hs.2 _ hm
  have hr : firstHit env st [h] ["function", "state"] = .evalName := by
    simp only [firstHit_cons, firstHit_nil, lookupStep_function, lookupStep_state, hf, if_false]; rfl
  simp only [astNameLoad_eq, hr, pyVarSrc, List.contains_iff_mem, Bool.or_eq_true]
  by_cases g : [h] ∈ env.globalDecl
  · obtain ⟨g1, g2, g3⟩ := hok.1 _ g
    simp only [g, g1, g2, g3, ↓reduceIte]
  by_cases a1 : [h] ∈ env.sym
  · simp only [g, a1, ↓reduceIte]
  by_cases a2 : [h] ∈ env.localSym
  · simp only [g, a1, a2, ↓reduceIte]
  by_cases a3 : [h] ∈ env.globalSym
  · have : [h] ∉ env.localNames := fun hl => (hok.2 _ hl a3).elim a1 a2
    simp only [g, a1, a2, a3, this, ↓reduceIte]
  by_cases a4 : [h] ∈ env.builtinAst
  · simp only [g, a1, a2, a3, a4, ↓reduceIte, true_or]
  by_cases a5 : [h] ∈ env.builtins
  · simp only [g, a1, a2, a3, a4, a5, ↓reduceIte, or_true]
  · simp only [g, a1, a2, a3, a4, a5, ↓reduceIte, or_self]

theorem head_getattr {env : Env} (hs : SimpleEnv env) (hok : EnvOK env) (st : Store) (h x : String) :
    getattrOut (astNameLoad env st [h]) x =
      (match pyVarSrc env h with
       | some src => .py src
       | none => .exc "NameError") := by
  rw [astNameLoad_one hs hok]; cases pyVarSrc env h <;> rfl

theorem head_defined {env : Env} (hs : SimpleEnv env) (hok : EnvOK env) (st : Store) (h : String) :
    headDefined env st h = (pyVarSrc env h).isSome := by
  rw [headDefined, astNameLoad_one hs hok]; cases pyVarSrc env h <;> rfl

theorem stateGet_ne_evalName (env : Env) (st : Store) (parts : List String) :
    (stateGet env st parts != .evalName) = true := by
  rcases parts with _ | ⟨d, _ | ⟨n, _ | ⟨a, _ | ⟨b, r⟩⟩⟩⟩ <;> simp only [stateGet] <;> try rfl
  · cases aget (d, n) st <;> rfl
  · cases aget (d, n) st with
    | none => rfl
    | some r =>
      simp only [snapGetattr]
      cases env.svcMethod d a <;> cases aget a (mkSnap (d, n) r).dict <;> cases methodAttr a <;> rfl

/-- `ast_attribute` falls back on `getattr(StateVal, a)`; `State.get` does the same once no entity service is meant -/
theorem getattr_stateGet (env : Env) (st : Store) (d n a : String) (he : stateExist env st [d, n, a] = false) :
    getattrOut (stateGet env st [d, n]) a = stateGet env st [d, n, a] := by
  simp only [stateExist, stateGet] at he ⊢
  revert he
  cases aget (d, n) st with
  | none => exact fun _ => rfl
  | some r =>
    intro he
    simp only [Bool.or_eq_false_iff] at he
    simp only [he.1.1.1, getattrOut, Bool.false_eq_true, if_false]

theorem loadDotted_two {env : Env} (hs : SimpleEnv env) (hok : EnvOK env) (st : Store) (d n : String) :
    loadDotted env st [d, n] =
      (match pyVarSrc env d with
       | some src => .py src
       | none => if callableName env d n then .callable else stateGet env st [d, n]) := by
  simp only [loadDotted, List.reverse_cons, List.reverse_nil, List.nil_append, List.cons_append, evalRev,
    List.headD_cons, head_defined hs hok, head_getattr hs hok, astNameLoad_two hs]
  cases pyVarSrc env d with
  | some src => rfl
  | none =>
    simp only [Option.isSome_none, Bool.false_eq_true, if_false]
    cases callableName env d n with
    | true => rfl
    | false => simp only [Bool.false_eq_true, if_false, stateGet_ne_evalName, if_true]

theorem loadDotted_three {env : Env} (hs : SimpleEnv env) (hok : EnvOK env) (st : Store) (d n a : String)
    (hc : (pyVarSrc env d).isSome = true ∨ callableName env d n = false) :
    loadDotted env st [d, n, a] =
      (match pyVarSrc env d with
       | some src => .py src
       | none => stateGet env st [d, n, a]) := by
  -- the full name is looked up unless its head is bound; failing that, `getattr` on what `d.n` evaluates to
  have h : loadDotted env st [d, n, a] =
      if (if headDefined env st d then .evalName else astNameLoad env st [d, n, a]) != .evalName
      then (if headDefined env st d then .evalName else astNameLoad env st [d, n, a])
      else getattrOut (loadDotted env st [d, n]) a := rfl
  simp only [h, head_defined hs hok, astNameLoad_three hs, loadDotted_two hs hok]
  cases hp : pyVarSrc env d with
  | some src => rfl
  | none =>
    have hc' : callableName env d n = false := hc.resolve_left (by simp [hp])
    simp only [hc', Option.isSome_none, Bool.false_eq_true, if_false]
    cases he : stateExist env st [d, n, a] with
    | true => simp only [if_true, stateGet_ne_evalName]
    | false => exact getattr_stateGet env st d n a he

theorem load_abs {fx : Fixes} {env : Env} (hs : SimpleEnv env) (hok : EnvOK env) (st : Store) (parts : List String)
    (hc : Conf fx env (.load parts) = true) :
    absOut (loadDotted env st parts) = Spec.load env (absStore st) parts := by
  rcases parts with _ | ⟨d, _ | ⟨n, _ | ⟨a, _ | ⟨b, r⟩⟩⟩⟩ <;> try cases hc
  · rw [loadDotted_two hs hok]
    simp only [Spec.load]
    cases pyVarSrc env d with
    | some src => rfl
    | none =>
      cases callableName env d n with
      | true => rfl
      | false => exact stateGet_abs env st [d, n]
  · have hc' : (pyVarSrc env d).isSome = true ∨ callableName env d n = false := by
      simpa only [Conf, Bool.or_eq_true, Bool.not_eq_true'] using hc
    rw [loadDotted_three hs hok st d n a hc']
    simp only [Spec.load]
    cases pyVarSrc env d with
    | some src => rfl
    | none => exact stateGet_abs env st [d, n, a]

/-! `recurse_assign` and `ast_delete` route on the head of the dotted name -/

section routing
variable {env : Env} (hs : SimpleEnv env) (hok : EnvOK env) (fx : Fixes) (st : Store)
include hs hok

theorem storeDotted_py {d src : String} (h : pyVarSrc env d = some src) (n : String) (rest : List String) (v : Arg) :
    storeDotted fx env st (d :: n :: rest) v = (st, .py "setattr") := by
  simp only [storeDotted, head_defined hs hok, h, Option.isSome_some, if_true]

theorem storeDotted_two {d : String} (h : pyVarSrc env d = none) (n : String) (v : Arg) :
    storeDotted fx env st [d, n] v
      = stateSet st [d, n] (if fx.assignNone && v == .none then .plain noneStr else v) none [] := by
  simp only [storeDotted, head_defined hs hok, h, Option.isSome_none, Bool.false_eq_true, if_false,
    List.length_cons, List.length_nil, ASSIGN_DOTS_SET, if_true]

theorem storeDotted_two_plain {d : String} (h : pyVarSrc env d = none) (n : String) (x : Val) :
    storeDotted fx env st [d, n] (.plain x) = (setCore st (d, n) (.plain x) none [], .unit) := by
  rw [storeDotted_two hs hok fx st h, show (Arg.plain x == Arg.none) = false from rfl, Bool.and_false]; rfl

/-- with the repair of `recurse_assign`, `d.n = None` stores the string `"None"` -/
theorem storeDotted_two_none {d : String} (h : pyVarSrc env d = none) (hf : fx.assignNone = true) (n : String) :
    storeDotted fx env st [d, n] .none = (setCore st (d, n) (.plain noneStr) none [], .unit) := by
  rw [storeDotted_two hs hok fx st h, hf]; rfl

theorem storeDotted_three {d : String} (h : pyVarSrc env d = none) (n a : String) (v : Arg) :
    storeDotted fx env st [d, n, a] v
      = stateSetattr fx env st [d, n, a] (match v with | .none => Val.none | .plain x => x | .sv s => svVal s) := by
  simp only [storeDotted, head_defined hs hok, h, Option.isSome_none, Bool.false_eq_true, if_false,
    List.length_cons, List.length_nil, ASSIGN_DOTS_SET, ASSIGN_DOTS_SETATTR]
  cases v <;> rfl

theorem delDotted_py {d src : String} (h : pyVarSrc env d = some src) (hf : fx.delPyAttr = true) (n : String)
    (rest : List String) : delDotted fx env st (d :: n :: rest) = (st, .py "delattr") := by
  simp only [delDotted, head_defined hs hok, h, hf, Option.isSome_some, Bool.and_self, if_true]

theorem delDotted_state {d : String} (h : fx.delPyAttr = false ∨ pyVarSrc env d = none) (n : String)
    (rest : List String) : delDotted fx env st (d :: n :: rest) = stateDelete st (d :: n :: rest) := by
  rcases h with h | h <;>
    simp only [delDotted, head_defined hs hok, h, Option.isSome_none, Bool.false_and, Bool.and_false,
      Bool.false_eq_true, if_false]

end routing

theorem store_abs {fx : Fixes} {env : Env} (hs : SimpleEnv env) (hok : EnvOK env) (ms : MState) (parts : List String)
    (v : ArgRef) (a : Arg) (hc : Conf fx env (.store parts v) = true) (ha : resolveArg ms.snaps v = some a) :
    (absStore (storeDotted fx env ms.store parts a).1, absOut (storeDotted fx env ms.store parts a).2)
      = Spec.store env (absState ms) parts v := by
  rcases parts with _ | ⟨d, _ | ⟨n, _ | ⟨x, _ | ⟨y, r⟩⟩⟩⟩ <;> try cases hc
  all_goals
    cases hq : pyVarSrc env d with
    | some src => rw [storeDotted_py hs hok fx _ hq]; simp only [Spec.store, hq]; rfl
    | none => ?_
  · -- `d.n = v` is `State.set(name, v)`, with `None` replaced by `"None"`
    cases v with
    | snap i => cases hc
    | none =>
      cases ha
      have hf : (fx.assignNone || (pyVarSrc env d).isSome) = true := hc
      rw [hq, Option.isSome_none, Bool.or_false] at hf
      rw [storeDotted_two_none hs hok fx _ hq hf]
      simp only [Spec.store, hq, refStr]
      exact stateSet_abs ms.store [d, n] (.plain noneStr) none [] (Or.inl nofun)
    | plain x =>
      cases ha
      rw [storeDotted_two_plain hs hok fx _ hq]
      simp only [Spec.store, hq, refStr]
      exact stateSet_abs ms.store [d, n] (.plain x) none [] (Or.inl nofun)
  · -- `d.n.a = v` is `State.setattr`
    rw [storeDotted_three hs hok fx _ hq]
    cases v with
    | snap i => cases hc
    | _ =>
      cases ha
      simp only [Spec.store, hq]
      exact stateSetattr_abs ms.store [d, n, x] _
        (by simpa only [Conf, hq, Option.isSome_none, Bool.or_false] using hc)

theorem delStmt_abs {fx : Fixes} {env : Env} (hs : SimpleEnv env) (hok : EnvOK env) (st : Store) (parts : List String)
    (hc : Conf fx env (.delStmt parts) = true) :
    (absStore (delDotted fx env st parts).1, absOut (delDotted fx env st parts).2)
      = Spec.delStmt env (absStore st) parts := by
  rcases parts with _ | ⟨d, _ | ⟨n, r⟩⟩ <;> try cases hc
  simp only [Conf, Bool.or_eq_true, Option.isNone_iff_eq_none] at hc
  cases hq : pyVarSrc env d with
  | none => rw [delDotted_state hs hok fx st (Or.inr hq)]; simp only [Spec.delStmt, hq]; exact stateDelete_abs st _
  | some src =>
    rw [delDotted_py hs hok fx st hq (hc.resolve_right (by simp [hq]))]
    simp only [Spec.delStmt, hq]; rfl

theorem capture_abs (ms : MState) (o : Out) : absState (capture ms o) = Spec.capture (absState ms) (absOut o) := by
  cases o with
  | sv s => exact congrArg (AState.mk _) List.map_append
  | _ => rfl

theorem absState_snaps_getElem? (ms : MState) (i : Nat) :
    (absState ms).snaps[i]? = (ms.snaps[i]?).map absSnap :=
  List.getElem?_map ..

theorem withStore_abs (ms : MState) (r : Store × Out) (r' : AStore × SOut)
    (h : (absStore r.1, absOut r.2) = r') :
    absState (withStore ms r).1 = (Spec.withStore (absState ms) r').1 ∧
      absOut (withStore ms r).2 = (Spec.withStore (absState ms) r').2 := by
  subst h
  exact ⟨rfl, rfl⟩

theorem refValue_abs (ms : MState) (v : ArgRef) :
    refValue (absState ms).snaps v = (resolveArg ms.snaps v).map argStr? := by
  cases v with
  | snap i => rw [refValue, absState_snaps_getElem?, resolveArg]; cases ms.snaps[i]? <;> rfl
  | _ => rfl

/-! The store changes only through `async_set` and `async_remove`.

Whatever `hass.states.async_set` and `async_remove` preserve, every entry point preserves: each branch returns the
store as it was, after one `setCore` (an `aset`), or after one `adel`. -/

section store_ind
variable {P : Store → Prop} (hset : ∀ st e r, P st → P (aset e r st)) {st : Store} (h : P st)

theorem ite_store (c : Prop) [Decidable c] {x y : Store × Out} (hx : P x.1) (hy : P y.1) :
    P (if c then x else y).1 := by
  split <;> assumption

include hset h

theorem stateSet_store (parts : List String) (a : Arg) (na : Option Attrs) (kw : Attrs) :
    P (stateSet st parts a na kw).1 := by
  rcases parts with _ | ⟨d, _ | ⟨n, _ | ⟨x, r⟩⟩⟩ <;> try exact h
  exact hset _ _ _ h

theorem stateSetattr_store (fx : Fixes) (env : Env) (parts : List String) (v : Val) :
    P (stateSetattr fx env st parts v).1 := by
  rcases parts with _ | ⟨d, _ | ⟨n, _ | ⟨a, _ | ⟨y, r⟩⟩⟩⟩ <;> try exact h
  simp only [stateSetattr]
  cases aget (d, n) st with
  | none => exact h
  | some r =>
    exact ite_store _ (hset _ _ _ h) (ite_store _ (hset _ _ _ h) (ite_store _ (hset _ _ _ h) (ite_store _ h h)))

theorem storeDotted_store (fx : Fixes) (env : Env) (parts : List String) (a : Arg) :
    P (storeDotted fx env st parts a).1 := by
  rcases parts with _ | ⟨d, _ | ⟨n, r⟩⟩
  · exact h
  · exact h
  · simp only [storeDotted]
    refine ite_store _ h (ite_store _ (stateSet_store hset h ..) (ite_store _ ?_ h))
    cases a <;> exact stateSetattr_store hset h ..

theorem augDotted_store (fx : Fixes) (env : Env) (parts : List String) (sfx : String) :
    P (augDotted fx env st parts sfx).1 := by
  rcases parts with _ | ⟨d, _ | ⟨n, _ | ⟨x, r⟩⟩⟩
  · exact h
  · exact h
  · simp only [augDotted]
    refine ite_store _ h ?_
    cases loadDotted env st [d, n] with
    | sv s => exact storeDotted_store hset h ..
    | _ => exact h
  · exact h

variable (hdel : ∀ st e, P st → P (adel e st))
include hdel

theorem stateDelete_store (parts : List String) : P (stateDelete st parts).1 := by
  rcases parts with _ | ⟨d, _ | ⟨n, _ | ⟨a, _ | ⟨y, r⟩⟩⟩⟩ <;> try exact h
  all_goals
    simp only [stateDelete]
    cases aget (d, n) st with
    | none => exact h
    | some r => ?_
  · exact hdel _ _ h
  · dsimp only
    cases aget a r.attrs with
    | none => exact h
    | some _ => exact hset _ _ _ h

theorem delDotted_store (fx : Fixes) (env : Env) (parts : List String) : P (delDotted fx env st parts).1 := by
  rcases parts with _ | ⟨d, _ | ⟨n, r⟩⟩ <;> try exact h
  exact ite_store _ h (stateDelete_store hset h hdel _)

end store_ind

theorem capture_store (ms : MState) (o : Out) : (capture ms o).store = ms.store := by
  cases o <;> rfl

section run_ind
variable {P : Store → Prop} (hset : ∀ st e r, P st → P (aset e r st)) (hdel : ∀ st e, P st → P (adel e st))
  (fx : Fixes) (env : Env)
include hset hdel

theorem step_store_ind (ms : MState) (op : Op) (h : P ms.store) : P (step fx env ms op).1.store := by
  cases op with
  | load parts | get parts => simp only [step, capture_store]; exact h
  | store parts v =>
    simp only [step]
    cases resolveArg ms.snaps v with
    | none => exact h
    | some a => exact storeDotted_store hset h ..
  | set parts v na kw =>
    simp only [step]
    cases resolveArg ms.snaps v with
    | none => exact h
    | some a => exact stateSet_store hset h ..
  | aug parts sfx => exact augDotted_store hset h ..
  | delStmt parts => exact delDotted_store hset h hdel ..
  | setattr parts v => exact stateSetattr_store hset h ..
  | delete parts => exact stateDelete_store hset h hdel _
  | getattrSnap i | peek i => simp only [step]; cases ms.snaps[i]? <;> exact h
  | extSet e value attrs => exact hset _ _ _ h
  | extRemove e => exact hdel _ _ h
  | exist parts | getattr parts | names dom => exact h

theorem run_store_ind (ops : List Op) (ms : MState) (h : P ms.store) : P (run fx env ms ops).1.store := by
  induction ops generalizing ms with
  | nil => exact h
  | cons op ops ih => exact ih _ (step_store_ind hset hdel fx env ms op h)

end run_ind

theorem capture_snaps (ms : MState) (o : Out) : ms.snaps <+: (capture ms o).snaps := by
  cases o with
  | sv s => exact List.prefix_append _ _
  | _ => exact List.prefix_refl _

theorem step_snaps (fx : Fixes) (env : Env) (ms : MState) (op : Op) : ms.snaps <+: (step fx env ms op).1.snaps := by
  cases op with
  | load parts | get parts => exact capture_snaps ms _
  | store parts v | set parts v na kw =>
    simp only [step]; cases resolveArg ms.snaps v <;> exact List.prefix_refl _
  | getattrSnap j | peek j => simp only [step]; cases ms.snaps[j]? <;> exact List.prefix_refl _
  | _ => exact List.prefix_refl _

theorem run_snaps (fx : Fixes) (env : Env) (ops : List Op) (ms : MState) :
    ms.snaps <+: (run fx env ms ops).1.snaps := by
  induction ops generalizing ms with
  | nil => exact List.prefix_refl _
  | cons op ops ih => exact (step_snaps fx env ms op).trans (ih _)

end PsModel.C16
