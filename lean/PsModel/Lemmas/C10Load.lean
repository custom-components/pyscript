import PsModel.Model.C10
import PsModel.Spec.C10
/-! the loader (`load_file` / `module_import`): its effect on the table of contexts, the names it chooses, the cyclic-import witness -/
namespace PsModel.C10
open PsModel.C10.Spec

/-- `st'` arises from `st` by the load events `evs`: a context whose name is not among the events is still there,
the same object, and nothing else has appeared -/
structure Touch (st st' : St) (evs : List (Name × Nat)) : Prop where
  events : st'.events = st.events ++ evs
  keep : ∀ c ∈ st.ctxs, c.name ∉ evs.map (·.1) → c ∈ st'.ctxs
  new : ∀ c ∈ st'.ctxs, c ∈ st.ctxs ∨ c.name ∈ evs.map (·.1)

namespace Touch

theorem refl (st : St) : Touch st st [] :=
  ⟨(List.append_nil _).symm, fun _ hc _ => hc, fun _ hc => .inl hc⟩

theorem trans {a b c : St} {e1 e2 : List (Name × Nat)} (h1 : Touch a b e1) (h2 : Touch b c e2) :
    Touch a c (e1 ++ e2) := by
  refine ⟨by rw [h2.events, h1.events, List.append_assoc], fun x hx hne => ?_, fun x hx => ?_⟩
  · rw [List.map_append, List.mem_append, not_or] at hne
    exact h2.keep x (h1.keep x hx hne.1) hne.2
  · rw [List.map_append, List.mem_append]
    rcases h2.new x hx with h | h
    · exact (h1.new x h).imp id .inl
    · exact .inr (.inr h)

theorem drop (st : St) (n : Name) (src : Nat) :
    Touch st { ctxs := st.ctxs.filter (fun c => !(c.name == n)), events := st.events ++ [(n, src)] } [(n, src)] := by
  refine ⟨rfl, fun c hc hne => List.mem_filter.mpr ⟨hc, ?_⟩, fun c hc => .inl (List.mem_filter.mp hc).1⟩
  rw [Bool.not_eq_true', beq_eq_false_iff_ne]
  exact fun h => hne (h ▸ List.mem_singleton.mpr rfl)

/-- marking a context as a module changes the object, so its name has to be among the events -/
theorem mark {st r : St} {evs : List (Name × Nat)} (h : Touch st r evs) {n : Name} (hn : n ∈ evs.map (·.1)) :
    Touch st (markModule r n) evs := by
  refine ⟨h.events, fun c hc hne => ?_, fun c hc => ?_⟩
  · refine List.mem_map.mpr ⟨c, h.keep c hc hne, if_neg fun hh => hne ?_⟩
    rw [eq_of_beq hh]; exact hn
  · obtain ⟨y, hy, rfl⟩ := List.mem_map.mp hc
    by_cases hyn : (y.name == n) = true
    · rw [if_pos hyn]; exact .inr (eq_of_beq hyn ▸ hn)
    · rw [if_neg hyn]; exact h.new y hy

theorem register {st r : St} {evs : List (Name × Nat)} (h : Touch st r evs) {c : Ctx} (hn : c.name ∈ evs.map (·.1)) :
    Touch st { r with ctxs := r.ctxs.filter (fun x => !(x.name == c.name)) ++ [c] } evs := by
  refine ⟨h.events, fun x hx hne => List.mem_append_left _ (List.mem_filter.mpr ⟨h.keep x hx hne, ?_⟩), fun x hx => ?_⟩
  · rw [Bool.not_eq_true', beq_eq_false_iff_ne]
    exact fun e => hne (e ▸ hn)
  · rcases List.mem_append.mp hx with hx | hx
    · exact h.new x (List.mem_filter.mp hx).1
    · rw [List.mem_singleton.mp hx]; exact .inr hn

end Touch

theorem mem_deleteCtxs {st : St} {del : List Name} {c : Ctx} :
    c ∈ (deleteCtxs st del).ctxs ↔ c ∈ st.ctxs ∧ c.name ∉ del := by
  simp only [deleteCtxs, List.mem_filter, Bool.not_eq_true', ← Bool.not_eq_true, List.contains_iff_mem]

def LoadSpec (load : St → Pending → Bool × St) : Prop :=
  ∀ st p, ∃ evs, Touch st (load st p).2 evs ∧ ((load st p).1 = true → p.name ∈ evs.map (·.1))

theorem runImps_spec {load : St → Pending → Bool × St} (hload : LoadSpec load) (disk : List File) (self : Name)
    (rel : Option Path) : ∀ (is : List Imp) (st : St) (acc : List Name),
    ∃ evs, Touch st (runImps load disk self rel is st acc).2 evs := by
  intro is
  induction is with
  | nil => intro st acc; exact ⟨[], Touch.refl st⟩
  | cons i is ih =>
    intro st acc
    unfold runImps
    split
    · exact ⟨[], Touch.refl st⟩
    · split
      · exact ih st _
      · split
        · exact ⟨[], Touch.refl st⟩
        · rename_i c f _
          obtain ⟨evs1, h1, hok1⟩ := hload st
            { name := c.name, path := c.file, relImport := c.relImport, appCfg := none, src := f.src, mtime := f.mtime }
          simp only at hok1 ⊢
          generalize load st _ = r at h1 hok1 ⊢
          by_cases hr : r.1 = true
          · rw [if_pos hr]
            obtain ⟨evs2, h2⟩ := ih (markModule r.2 c.name) (addImport acc c.name)
            exact ⟨evs1 ++ evs2, (h1.mark (hok1 hr)).trans h2⟩
          · rw [if_neg hr]
            exact ⟨evs1, h1⟩

/-- with a positive depth budget the script is always started (its load event is recorded first) -/
theorem loadCtx_succ {disk : List File} {prog : Nat → List Imp} {fuel : Nat} (hload : LoadSpec (loadCtx disk prog fuel))
    (st : St) (p : Pending) :
    ∃ evs, Touch st (loadCtx disk prog (fuel + 1) st p).2 ((p.name, p.src) :: evs) := by
  unfold loadCtx
  simp only
  obtain ⟨evs, h1⟩ := runImps_spec hload disk p.name p.relImport (prog p.src)
    { ctxs := st.ctxs.filter (fun c => !(c.name == p.name)), events := st.events ++ [(p.name, p.src)] } []
  generalize runImps (loadCtx disk prog fuel) disk p.name p.relImport (prog p.src) _ [] = r at h1 ⊢
  have h := (Touch.drop st p.name p.src).trans h1
  cases r.1 with
  | none => exact ⟨evs, h⟩
  | some imps =>
    exact ⟨evs, h.register (c := ⟨p.name, p.path, p.relImport, p.src, p.mtime, p.appCfg, imps, false, st.events.length⟩)
      List.mem_cons_self⟩

theorem loadCtx_spec (disk : List File) (prog : Nat → List Imp) (fuel : Nat) : LoadSpec (loadCtx disk prog fuel) := by
  induction fuel with
  | zero => exact fun st _ => ⟨[], Touch.refl st, fun h => absurd h Bool.false_ne_true⟩
  | succ fuel ih =>
    intro st p
    obtain ⟨_, h⟩ := loadCtx_succ ih st p
    exact ⟨_, h, fun _ => List.mem_cons_self⟩

/-- the load phase: a fold of `load_file` over the forced auto-load entries -/
theorem loadAll_spec (disk : List File) (prog : Nat → List Imp) (fuel : Nat) (todo : List Entry) (st : St) :
    ∃ evs, Touch st (todo.foldl (fun s e => (loadCtx disk prog (fuel + 1) s (pendingOf e)).2) st) evs ∧
      ∀ e ∈ todo, (e.name, e.src) ∈ evs := by
  induction todo generalizing st with
  | nil => exact ⟨[], Touch.refl st, List.forall_mem_nil _⟩
  | cons e todo ih =>
    obtain ⟨evs1, h1⟩ := loadCtx_succ (loadCtx_spec disk prog fuel) st (pendingOf e)
    obtain ⟨evs2, h2, hall⟩ := ih (loadCtx disk prog (fuel + 1) st (pendingOf e)).2
    refine ⟨_, h1.trans h2, fun x hx => ?_⟩
    rcases List.mem_cons.mp hx with rfl | hx
    · exact List.mem_cons_self
    · exact List.mem_append_right _ (hall x hx)

theorem loadCtx_fails_of_import {disk : List File} {prog : Nat → List Imp} {fuel : Nat} {st : St} {p : Pending}
    {i : Imp} {is : List Imp} {cands : List Cand} {c : Cand} {f : File}
    (hp : prog p.src = i :: is) (hc : candidates p.name p.relImport i = some cands)
    (hnl : cands.find? (fun c => loadedModule (st.ctxs.filter (fun x => !(x.name == p.name))) c.name) = none)
    (hff : firstFile disk cands = some (c, f))
    (hfail : (loadCtx disk prog fuel
        { ctxs := st.ctxs.filter (fun x => !(x.name == p.name)), events := st.events ++ [(p.name, p.src)] }
        { name := c.name, path := c.file, relImport := c.relImport, appCfg := none, src := f.src, mtime := f.mtime }).1
      = false) :
    (loadCtx disk prog (fuel + 1) st p).1 = false := by
  unfold loadCtx
  simp only [hp]
  unfold runImps
  simp only [hc, hnl, hff, hfail, Bool.false_eq_true, if_false]

theorem candidatesCfg_rel {relPkg submod : Bool} {self : Name} {rel : Option Path} {i : Imp} (hl : 0 < i.level) :
    candidatesCfg relPkg submod self rel i = rel.bind fun r =>
      (climb (i.level - 1) (modParts r) (if relPkg && !(self == modParts r) then self.dropLast else self)).map fun pn =>
        [⟨pn.2 ++ i.mod, pn.1 ++ i.mod ++ ["__init__"], some (pn.1 ++ i.mod)⟩, ⟨pn.2 ++ i.mod, pn.1 ++ i.mod, some pn.1⟩] := by
  unfold candidatesCfg
  rw [if_pos hl]
  cases rel with
  | none => rfl
  | some r =>
    simp only [Option.bind_some]
    cases climb (i.level - 1) (modParts r) (if (relPkg && !(self == modParts r)) = true then self.dropLast else self) <;> rfl

theorem candidatesCfg_abs_mem {relPkg submod : Bool} {self : Name} {rel : Option Path} {i : Imp} (hl : ¬ 0 < i.level)
    {cands : List Cand} (h : candidatesCfg relPkg submod self rel i = some cands) {c : Cand} (hc : c ∈ cands) :
    ∃ pre, (pre = "apps" ∨ pre = "modules") ∧ c.name = pre :: i.mod ∧
      (c.file = pre :: i.mod ++ ["__init__"] ∨ c.file = pre :: i.mod) := by
  unfold candidatesCfg at h
  rw [if_neg hl, Option.some.injEq] at h
  subst h
  rcases List.mem_append.mp hc with hc | hc
  · refine ⟨"apps", .inl rfl, ?_⟩
    cases rel with
    | none => cases hc
    | some r =>
      dsimp only at hc
      by_cases hu : isUnder "apps" r = true
      · rw [if_pos hu] at hc
        rcases List.mem_cons.mp hc with rfl | hc
        · exact ⟨rfl, .inl rfl⟩
        · rw [List.mem_singleton.mp hc]; exact ⟨rfl, .inr rfl⟩
      · rw [if_neg hu] at hc; cases hc
  · refine ⟨"modules", .inr rfl, ?_⟩
    rcases List.mem_cons.mp hc with rfl | hc
    · exact ⟨rfl, .inl rfl⟩
    · rw [List.mem_singleton.mp hc]; exact ⟨rfl, .inr rfl⟩

/-- climbing from a context named like its directory keeps the two equal, and does not reach the top -/
theorem climb_same (k : Nat) (p p' n' : Path) (h : climb k p p = some (p', n')) : p' = n' ∧ (p ≠ [] → p' ≠ []) := by
  induction k generalizing p with
  | zero =>
    simp only [climb, Option.some.injEq, Prod.mk.injEq] at h
    exact ⟨h.1.symm.trans h.2, fun hp => h.1 ▸ hp⟩
  | succ k ih =>
    unfold climb at h
    by_cases hg : (p.dropLast.length < 2 || p.length < 2) = true
    · rw [if_pos hg] at h; cases h
    · rw [if_neg hg] at h
      have := ih p.dropLast h
      refine ⟨this.1, fun _ => this.2 fun h0 => hg ?_⟩
      rw [h0]; rfl

theorem docName_init (q : Path) (hq : q ≠ []) : docName (q ++ ["__init__"]) = q := by
  unfold docName
  have h1 : ¬ (q ++ ["__init__"]).length = 1 := by
    cases q with
    | nil => exact absurd rfl hq
    | cons x xs => simp
  simp [hq]

theorem docName_plain (q : Path) (h2 : 2 ≤ q.length) (hl : q.getLast? ≠ some "__init__") : docName q = q := by
  unfold docName
  have h1 : ¬ q.length = 1 := by omega
  rw [if_neg h1, if_neg hl]

/-! ## the cyclic-import witness (finding C10-F3) -/

/-- `a.py` imports `m`, `modules/m.py` imports `n`, `modules/n.py` imports `m` -/
def cexF3Disk : List File := [⟨["a"], 1, 1⟩, ⟨["modules", "m"], 2, 1⟩, ⟨["modules", "n"], 3, 1⟩]
def cexF3Prog (s : Nat) : List Imp :=
  if s = 1 then [⟨0, ["m"]⟩] else if s = 2 then [⟨0, ["n"]⟩] else if s = 3 then [⟨0, ["m"]⟩] else []
def cexF3M : Pending := { name := ["modules", "m"], path := ["modules", "m"], relImport := none, appCfg := none, src := 2, mtime := 1 }
def cexF3N : Pending := { name := ["modules", "n"], path := ["modules", "n"], relImport := none, appCfg := none, src := 3, mtime := 1 }
def cexF3A : Pending := { name := ["file", "a"], path := ["a"], relImport := none, appCfg := none, src := 1, mtime := 1 }

theorem cexF3_ffM : firstFile cexF3Disk
    [⟨["modules", "m"], ["modules", "m", "__init__"], some ["modules", "m"]⟩, ⟨["modules", "m"], ["modules", "m"], none⟩] =
    some (⟨["modules", "m"], ["modules", "m"], none⟩, ⟨["modules", "m"], 2, 1⟩) := by decide
theorem cexF3_ffN : firstFile cexF3Disk
    [⟨["modules", "n"], ["modules", "n", "__init__"], some ["modules", "n"]⟩, ⟨["modules", "n"], ["modules", "n"], none⟩] =
    some (⟨["modules", "n"], ["modules", "n"], none⟩, ⟨["modules", "n"], 3, 1⟩) := by decide

def NoMN (st : St) : Prop := loadedModule st.ctxs ["modules", "m"] = false ∧ loadedModule st.ctxs ["modules", "n"] = false

theorem noMN_filter {st : St} (h : NoMN st) (n : Name) (evs : List (Name × Nat)) :
    NoMN { ctxs := st.ctxs.filter (fun c => !(c.name == n)), events := evs } := by
  unfold NoMN loadedModule at *
  simp only [List.any_eq_false, List.mem_filter, and_imp] at *
  exact ⟨fun c hc _ => h.1 c hc, fun c hc _ => h.2 c hc⟩

end PsModel.C10
