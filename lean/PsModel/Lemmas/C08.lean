import PsModel.Model.C08
import PsModel.Spec.C08
/-! # C08 – lemmas: dictionaries, subscription tables, the queue and context invariants of both machines -/
namespace PsModel.C08

theorem foldl_inv {σ α} {P : σ → Prop} {f : σ → α → σ} (h : ∀ s a, P s → P (f s a)) (l : List α) {s : σ}
    (hs : P s) : P (l.foldl f s) := by
  induction l generalizing s with
  | nil => exact hs
  | cons a r ih => exact ih (h s a hs)

theorem nodup_concat {α} {l : List α} {a : α} (h : l.Nodup) (ha : a ∉ l) : (l ++ [a]).Nodup :=
  List.nodup_append.2 ⟨h, by simp, fun _ hb _ hc e => ha (List.mem_singleton.1 hc ▸ e ▸ hb)⟩

theorem filter_map_snoc {α β} (p : α → Bool) (f : α → β) (l : List α) (a : α) :
    ((l ++ [a]).filter p).map f = (l.filter p).map f ++ if p a then [f a] else [] := by
  rw [List.filter_append, List.map_append]
  cases h : p a <;> simp [List.filter, h]

/-- the index step of the start-up loops, which number what they register from `i` on -/
theorem exists_add_succ (P : Nat → Prop) (i x : Nat) :
    (∃ j, x = i + j ∧ P j) ↔ (x = i ∧ P 0) ∨ ∃ j, x = i + 1 + j ∧ P (j + 1) := by
  constructor
  · rintro ⟨j, rfl, h⟩
    cases j with
    | zero => exact Or.inl ⟨rfl, h⟩
    | succ j => exact Or.inr ⟨j, (Nat.add_right_comm i 1 j).symm, h⟩
  · rintro (⟨rfl, h⟩ | ⟨j, rfl, h⟩)
    · exact ⟨0, rfl, h⟩
    · exact ⟨j + 1, Nat.add_right_comm i 1 j, h⟩

namespace Dict

theorem get_none_of_not_mem (d : Dict) (k : String) (h : k ∉ d.keys) : d.get k = Option.none := by
  induction d with
  | nil => rfl
  | cons a r ih =>
    rw [keys, List.map_cons, List.mem_cons, not_or] at h
    rw [get, if_neg (Ne.symm h.1)]
    exact ih h.2

theorem get_set (d : Dict) (k : String) (v : Val) (k' : String) :
    (d.set k v).get k' = if k = k' then some v else d.get k' := by
  induction d with
  | nil => rfl
  | cons kv r ih => grind [set, get]

theorem get_update (d e : Dict) (k : String) :
    (d.update e).get k = (match Spec.lastOf e k with | some x => some x | Option.none => d.get k) := by
  unfold update
  induction e generalizing d with
  | nil => rfl
  | cons kv r ih =>
    simp only [List.foldl_cons, ih, Spec.lastOf, get_set]
    cases Spec.lastOf r k with
    | some x => rfl
    | none => by_cases h : kv.1 = k <;> simp [h]

theorem keys_set (d : Dict) (k : String) (v : Val) :
    (d.set k v).keys = if k ∈ d.keys then d.keys else d.keys ++ [k] := by
  induction d with
  | nil => rfl
  | cons kv r ih => grind [set, keys]

theorem nodup_set (d : Dict) (k : String) (v : Val) (h : d.keys.Nodup) : (d.set k v).keys.Nodup := by
  rw [keys_set]
  split
  · exact h
  · next h2 => exact nodup_concat h h2

theorem nodup_foldl_set (val : String × Val → Val) (l : Dict) (acc : Dict) (h : acc.keys.Nodup) :
    (l.foldl (fun acc kv => acc.set kv.1 (val kv)) acc).keys.Nodup := by
  induction l generalizing acc with
  | nil => exact h
  | cons kv r ih => exact ih _ (nodup_set acc _ _ h)

theorem nodup_update (d e : Dict) (h : d.keys.Nodup) : (d.update e).keys.Nodup :=
  nodup_foldl_set (·.2) e d h

theorem get_eq_lastOf (d : Dict) (h : d.keys.Nodup) (k : String) : d.get k = Spec.lastOf d k := by
  induction d with
  | nil => rfl
  | cons kv r ih =>
    obtain ⟨k0, v0⟩ := kv
    rw [keys, List.map_cons, List.nodup_cons] at h
    rw [get, Spec.lastOf, ← ih h.2]
    by_cases h2 : k0 = k
    · subst h2
      rw [get_none_of_not_mem r k0 h.1]
    · rw [if_neg h2, if_neg h2]
      cases get r k <;> rfl

theorem get_erase (d : Dict) (h : d.keys.Nodup) (k k' : String) :
    (d.erase k).get k' = if k' = k then Option.none else d.get k' := by
  induction d with
  | nil => simp [erase, get]
  | cons kv r ih =>
    obtain ⟨k0, v0⟩ := kv
    rw [keys, List.map_cons, List.nodup_cons] at h
    by_cases h1 : k0 = k
    · subst h1
      simp only [erase, if_true, get]
      by_cases h2 : k' = k0
      · subst h2; rw [if_pos rfl]; exact get_none_of_not_mem r k' h.1
      · rw [if_neg h2, if_neg (Ne.symm h2)]
    · simp only [erase, h1, if_false, get, ih h.2]
      by_cases h2 : k0 = k'
      · subst h2; rw [if_pos rfl, if_neg h1, if_pos rfl]
      · rw [if_neg h2, if_neg h2]

theorem get_isSome_of_mem (f : Dict) (kv : String × Val) (h : kv ∈ f) : (f.get kv.1).isSome := by
  induction f with
  | nil => cases h
  | cons a r ih =>
    rw [get]
    split
    · rfl
    · next h1 =>
      rcases List.mem_cons.1 h with h2 | h2
      · subst h2; exact absurd rfl h1
      · exact ih h2

theorem form_fold (f l : Dict) (acc : Dict) (hl : ∀ kv ∈ l, (f.get kv.1).isSome) (k : String) :
    (l.foldl (fun acc kv => acc.set kv.1 ((f.get kv.1).getD kv.2)) acc).get k
      = if k ∈ l.keys then f.get k else acc.get k := by
  induction l generalizing acc with
  | nil => rfl
  | cons kv r ih =>
    rw [List.foldl_cons, ih _ (fun x hx => hl x (List.mem_cons_of_mem _ hx)), get_set]
    have hk : k ∈ keys (kv :: r) ↔ k = kv.1 ∨ k ∈ keys r := List.mem_cons
    by_cases h1 : k ∈ keys r
    · rw [if_pos h1, if_pos (hk.2 (Or.inr h1))]
    · rw [if_neg h1]
      by_cases h2 : kv.1 = k
      · subst h2
        obtain ⟨v, hv⟩ := Option.isSome_iff_exists.1 (hl kv List.mem_cons_self)
        rw [if_pos rfl, if_pos (hk.2 (Or.inl rfl)), hv]; rfl
      · rw [if_neg h2, if_neg (fun h => (hk.1 h).elim (fun e => h2 e.symm) h1)]

end Dict

theorem funcArgs_eq (o : Occ) : funcArgs o = (Spec.fixedOf o).update (Spec.dataOf o) := by
  cases o with
  | event t d c => rfl
  | mqtt s t p q r j => cases j <;> simp [funcArgs, mqttArgs, Spec.fixedOf, Spec.dataOf, Dict.set, Dict.update]
  | webhook w j b f => simp [funcArgs, webhookArgs, Spec.fixedOf, Spec.dataOf, Dict.set, Dict.update]

theorem fixedOf_nodup (o : Occ) : (Spec.fixedOf o).keys.Nodup := by
  cases o with
  | mqtt s t p q r j => cases j <;> simp [Spec.fixedOf, Dict.keys]
  | _ => simp [Spec.fixedOf, Dict.keys]

namespace Table

theorem mem_add (n : Table) (k : Kind) (key : String) (q : Nat) (k' : Kind) (key' : String) (x : Nat) :
    x ∈ (n.add k key q) k' key' ↔ x ∈ n k' key' ∨ (x = q ∧ k = k' ∧ key = key') := by
  unfold Table.add
  grind

/-- the tables are python `set`s per key -/
def Nodup (n : Table) : Prop := ∀ k key, (n k key).Nodup

theorem nodup_empty : Table.empty.Nodup := fun _ _ => List.nodup_nil

theorem nodup_add (n : Table) (k : Kind) (key : String) (q : Nat) (h : n.Nodup) : (n.add k key q).Nodup := by
  intro k' key'
  unfold Table.add
  split
  · split
    · exact h _ _
    · next hq => exact nodup_concat (h _ _) hq
  · exact h _ _

def addOpt (n : Table) (k : Kind) (od : Option Dec) (q : Nat) : Table :=
  match od with
  | some d => n.add k d.key q
  | Option.none => n

theorem mem_addOpt (n : Table) (k : Kind) (od : Option Dec) (q : Nat) (k' : Kind) (key' : String) (x : Nat) :
    x ∈ (n.addOpt k od q) k' key' ↔ x ∈ n k' key' ∨ (x = q ∧ k = k' ∧ ∃ d, od = some d ∧ d.key = key') := by
  cases od with
  | none => exact (or_iff_left fun ⟨_, _, _, h, _⟩ => by cases h).symm
  | some d =>
    rw [Table.addOpt, Table.mem_add]
    exact or_congr_right (and_congr_right fun _ => and_congr_right fun _ =>
      ⟨fun e => ⟨d, rfl, e⟩, fun ⟨_, hd, hk⟩ => by cases hd; exact hk⟩)

theorem nodup_addOpt (n : Table) (k : Kind) (od : Option Dec) (q : Nat) (h : n.Nodup) :
    (n.addOpt k od q).Nodup := by
  cases od with
  | none => exact h
  | some d => exact Table.nodup_add n k d.key q h

end Table

theorem callExpr_eq (d : Dec) (a : Dict) :
    callExpr d.filt a = (match d.filt with | Option.none => true | some g => g a == some true) := by
  unfold callExpr
  cases d.filt with
  | none => rfl
  | some g =>
    simp only
    cases g a with
    | none => rfl
    | some b => cases b <;> rfl

/-- what one queued / pending message contributes for decorator `d` -/
def process (d : Dec) (a : Dict) : List Dict := if callExpr d.filt a then [runArgs d a] else []

theorem accepts_iff (d : Dec) (o : Occ) :
    Spec.accepts d o = (decide (o.kind = d.kind) && decide (o.key = d.key) && callExpr d.filt (funcArgs o)) := by
  rw [callExpr_eq]; rfl

theorem expected_snoc (d : Dec) (log : List Occ) (o : Occ) :
    Spec.expected d (log ++ [o]) =
      Spec.expected d log ++ if o.kind = d.kind ∧ o.key = d.key then process d (funcArgs o) else [] := by
  unfold Spec.expected
  rw [filter_map_snoc, accepts_iff]
  simp only [Bool.and_eq_true, decide_eq_true_eq, process]
  by_cases h : o.kind = d.kind ∧ o.key = d.key
  · simp only [h, and_self, true_and, if_true]
  · rw [if_neg (fun c => h c.1), if_neg h]

theorem upd_same {α} (f : Nat → α) (i : Nat) (v : α) : upd f i v i = v := if_pos rfl
theorem upd_other {α} (f : Nat → α) (i j : Nat) (v : α) (h : j ≠ i) : upd f i v j = f j := if_neg h

theorem t2c_get_append (t : T2C) (n : Nat) (c : Ctx) (r : Nat) :
    T2C.get (t ++ [(n, c)]) r =
      (match T2C.get t r with | some x => some x | Option.none => if n = r then some c else Option.none) := by
  induction t with
  | nil => rfl
  | cons p q ih =>
    obtain ⟨a, b⟩ := p
    rw [List.cons_append, T2C.get, T2C.get, ih]
    split <;> rfl

theorem mkCtx_parent (fresh : Nat) (args : Dict) : (mkCtx fresh args).parent = Spec.parentOf args := by
  unfold mkCtx Spec.parentOf
  split <;> simp_all

theorem eventFire_ctx (t2c : T2C) (task : Nat) (ek : EmitKind) (name : String) (kw : Dict) :
    (eventFire t2c task ek name kw).ctx = Spec.fireCtx kw (t2c.get task) := by
  unfold eventFire Spec.fireCtx
  cases kw.get "context" with
  | none => rfl
  | some v => cases v <;> rfl

/-- `task2context` holds the context of every started run, and the parent of a run's context is the Context its own
`context` keyword holds (the occurrence's, unless the decorator's `kwargs` override that key) -/
structure CtxInv (started : List Run) (t2c : T2C) : Prop where
  stored : ∀ r, t2c.get r = (started[r]?).map (·.ctx)
  parent : ∀ run ∈ started, run.ctx.parent = Spec.parentOf run.args

namespace CtxInv

theorem nil : CtxInv [] [] := ⟨fun _ => rfl, fun _ h => nomatch h⟩

/-- the step of `callAction` / `dispatch` -/
theorem snoc {started : List Run} {t2c : T2C} (h : CtxInv started t2c) (i : Nat) (k : Kind) (args : Dict)
    (fresh : Nat) :
    CtxInv (started ++ [{ dec := i, kind := k, args := args, ctx := mkCtx fresh args }])
      (t2c ++ [(started.length, mkCtx fresh args)]) := by
  refine ⟨fun r => ?_, fun run hr => ?_⟩
  · rw [t2c_get_append, h.stored]
    rcases Nat.lt_trichotomy r started.length with hr | rfl | hr
    · rw [List.getElem?_append_left hr, List.getElem?_eq_getElem hr]; rfl
    · rw [List.getElem?_eq_none (Nat.le_refl _), List.getElem?_concat_length, if_pos rfl]; rfl
    · rw [List.getElem?_eq_none (Nat.le_of_lt hr), if_neg (Nat.ne_of_lt hr),
        List.getElem?_eq_none (by rw [List.length_append]; exact hr)]
      rfl
  · rcases List.mem_append.1 hr with hr | hr
    · exact h.parent run hr
    · rw [List.mem_singleton.1 hr]; exact mkCtx_parent _ _

theorem fire {started : List Run} {t2c : T2C} (h : CtxInv started t2c) {r : Nat} {run : Run}
    (hr : started[r]? = some run) (ek : EmitKind) (name : String) (kw : Dict) :
    run.ctx.parent = Spec.parentOf run.args ∧
    (eventFire t2c r ek name kw).ctx = Spec.fireCtx kw (some run.ctx) := by
  refine ⟨h.parent run (List.mem_of_getElem? hr), ?_⟩
  rw [eventFire_ctx, h.stored, hr]; rfl

end CtxInv

namespace Legacy

/-- the decorators in a unit have the unit's kinds (true for `mkUnits`) -/
def UnitsOK (units : List LUnit) : Prop := ∀ u k d, unitDec units u k = some d → d.kind = k

theorem unitDec_append (a b : List LUnit) (u : Nat) (k : Kind) :
    unitDec (a ++ b) u k = if u < a.length then unitDec a u k else unitDec b (u - a.length) k := by
  unfold unitDec
  rw [List.getElem?_append]
  by_cases h : u < a.length
  · rw [if_pos h, if_pos h]
  · rw [if_neg h, if_neg h]

theorem unitDec_append_left (pre rest : List LUnit) (u : Nat) (h : u < pre.length) (k : Kind) :
    unitDec (pre ++ rest) u k = unitDec pre u k := by
  rw [unitDec_append, if_pos h]

theorem kindCount_le_unitCount (decs : List Dec) (k : Kind) : kindCount decs k ≤ unitCount decs := by
  unfold unitCount
  cases k
  · exact Nat.le_max_left _ _
  · exact Nat.le_trans (Nat.le_max_left _ _) (Nat.le_max_right _ _)
  · exact Nat.le_trans (Nat.le_max_right _ _) (Nat.le_max_right _ _)

theorem unitDec_mkUnits (decs : List Dec) (u : Nat) (k : Kind) :
    unitDec (mkUnits decs) u k = nthOfKind decs k u := by
  unfold unitDec mkUnits
  rw [List.getElem?_map]
  by_cases h : u < unitCount decs
  · rw [List.getElem?_range h]; rfl
  · rw [List.getElem?_eq_none (Nat.le_of_not_lt (List.length_range ▸ h)), nthOfKind,
      List.getElem?_eq_none (Nat.le_trans (kindCount_le_unitCount decs k) (Nat.le_of_not_lt h))]
    rfl

theorem unitsOK_mkUnits (decs : List Dec) : UnitsOK (mkUnits decs) := by
  intro u k d h
  rw [unitDec_mkUnits] at h
  simpa using (List.mem_filter.1 (List.mem_of_getElem? h)).2

theorem unitsOK_append (a b : List LUnit) (ha : UnitsOK a) (hb : UnitsOK b) : UnitsOK (a ++ b) := by
  intro u k d h
  rw [unitDec_append] at h
  split at h
  · exact ha _ _ _ h
  · exact hb _ _ _ h

theorem unitsOK_allUnits (fs : List (List Dec)) : UnitsOK (allUnits fs) := by
  induction fs with
  | nil => intro u k d h; cases h
  | cons f r ih => exact unitsOK_append _ _ (unitsOK_mkUnits f) ih

/-- the subscription tables say exactly which unit listens to which key -/
structure WF (units : List LUnit) (n : Table) : Prop where
  nodup : n.Nodup
  mem : ∀ u k key, u ∈ n k key ↔ ∃ d, unitDec units u k = some d ∧ d.key = key

theorem subscribeUnit_eq (n : Table) (u : Nat) (un : LUnit) :
    subscribeUnit n u un =
      ((n.addOpt .event (un .event) u).addOpt .mqtt (un .mqtt) u).addOpt .webhook (un .webhook) u := rfl

theorem mem_subscribeUnit (n : Table) (u : Nat) (un : LUnit) (k : Kind) (key : String) (x : Nat) :
    x ∈ (subscribeUnit n u un) k key ↔ x ∈ n k key ∨ (x = u ∧ ∃ d, un k = some d ∧ d.key = key) := by
  simp only [subscribeUnit_eq, Table.mem_addOpt]
  cases k <;> grind

theorem nodup_subscribeUnit (n : Table) (u : Nat) (un : LUnit) (h : n.Nodup) : (subscribeUnit n u un).Nodup :=
  Table.nodup_addOpt _ _ _ _ (Table.nodup_addOpt _ _ _ _ (Table.nodup_addOpt _ _ _ _ h))

theorem mem_setupFrom (rest : List LUnit) (i : Nat) (n : Table) (k : Kind) (key : String) (x : Nat) :
    x ∈ setupFrom i rest n k key ↔ x ∈ n k key ∨ ∃ j, x = i + j ∧ ∃ d, unitDec rest j k = some d ∧ d.key = key := by
  induction rest generalizing i n with
  | nil => exact (or_iff_left fun ⟨_, _, _, h, _⟩ => by cases h).symm
  | cons un rest ih =>
    rw [setupFrom, ih, mem_subscribeUnit, or_assoc]
    exact or_congr_right (exists_add_succ (fun j => ∃ d, unitDec (un :: rest) j k = some d ∧ d.key = key) i x).symm

theorem nodup_setupFrom (rest : List LUnit) (i : Nat) (n : Table) (h : n.Nodup) : (setupFrom i rest n).Nodup := by
  induction rest generalizing i n with
  | nil => exact h
  | cons un rest ih => exact ih _ _ (nodup_subscribeUnit n i un h)

theorem init_WF (units : List LUnit) : WF units (init units).notify := by
  refine ⟨nodup_setupFrom units 0 _ Table.nodup_empty, fun u k key => ?_⟩
  rw [show (init units).notify = setupFrom 0 units Table.empty from rfl, mem_setupFrom]
  constructor
  · rintro (h | ⟨j, rfl, h⟩)
    · cases h
    · rwa [Nat.zero_add]
  · exact fun h => Or.inr ⟨u, (Nat.zero_add u).symm, h⟩

namespace WF

theorem listens {units : List LUnit} {n : Table} (hwf : WF units n) (hok : UnitsOK units) {u : Nat} {k : Kind}
    {d : Dec} (hd : unitDec units u k = some d) (o : Occ) :
    (u ∈ n o.kind o.key ∧ o.kind = k) ↔ (o.kind = d.kind ∧ o.key = d.key) := by
  cases hok u k d hd
  rw [and_comm]
  refine and_congr_right fun hk => ?_
  rw [hk, hwf.mem, hd]
  exact ⟨fun ⟨_, h, hkey⟩ => by cases h; exact hkey.symm, fun h => ⟨d, rfl, h.symm⟩⟩

end WF

theorem putAll_apply (ts : List Nat) (hnd : ts.Nodup) (qs : Nat → List (Kind × Dict)) (m : Kind × Dict) (u : Nat) :
    putAll qs ts m u = if u ∈ ts then qs u ++ [m] else qs u := by
  unfold putAll
  induction ts generalizing qs with
  | nil => rfl
  | cons t r ih =>
    rw [List.nodup_cons] at hnd
    rw [List.foldl_cons, ih hnd.2]
    by_cases h1 : u = t
    · subst h1
      simp [hnd.1, upd]
    · by_cases h2 : u ∈ r <;> simp [h2, upd, h1]

/-- the evaluated-once fan-out is the specified one -/
theorem putAllQ_get (ts : List Nat) (qs : Nat → List (Kind × Dict)) (m : Kind × Dict) :
    (putAllQ qs ts m).get = putAll qs ts m := by
  induction ts generalizing qs with
  | nil => rfl
  | cons t r ih => exact ih _

theorem deliver_queues (st : State) (o : Occ) (hnd : (st.notify o.kind o.key).Nodup) (u : Nat) :
    (deliver st o).queues u =
      if u ∈ st.notify o.kind o.key then st.queues u ++ [(o.kind, funcArgs o)] else st.queues u := by
  show (putAllQ st.queues _ _).get u = _
  rw [putAllQ_get, putAll_apply _ hnd]

/-- runs still owed to decorator `(u,k)` = `d` by the messages waiting in the unit's queue -/
def pendingList (d : Dec) (k : Kind) (q : List (Kind × Dict)) : List Dict :=
  (q.filter (fun m => m.1 = k)).flatMap (fun m => process d m.2)

theorem pendingList_cons (d : Dec) (k : Kind) (q : List (Kind × Dict)) (m : Kind × Dict) :
    pendingList d k (m :: q) = (if m.1 = k then process d m.2 else []) ++ pendingList d k q := by
  unfold pendingList
  by_cases h : m.1 = k <;> simp [List.filter, h]

theorem pendingList_snoc (d : Dec) (k : Kind) (q : List (Kind × Dict)) (m : Kind × Dict) :
    pendingList d k (q ++ [m]) = pendingList d k q ++ (if m.1 = k then process d m.2 else []) := by
  unfold pendingList
  rw [List.filter_append, List.flatMap_append]
  congr 1
  by_cases h : m.1 = k <;> simp [List.filter, h]

theorem startedOf_callAction (st : State) (u0 : Nat) (k0 : Kind) (args : Dict) (u : Nat) (k : Kind) :
    startedOf (callAction st u0 k0 args) u k = startedOf st u k ++ if u0 = u ∧ k0 = k then [args] else [] := by
  refine (filter_map_snoc _ _ _ _).trans ?_
  simp only [decide_eq_true_eq]
  rfl

theorem take_nil {units : List LUnit} {st : State} {u : Nat} (h : st.queues u = []) : take units st u = st := by
  rw [take, h]

theorem take_cons {units : List LUnit} {st : State} {u : Nat} {m : Kind × Dict} {r : List (Kind × Dict)}
    (h : st.queues u = m :: r) : take units st u = handleMsg units { st with queues := upd st.queues u r } u m := by
  rw [take, h]

theorem handleMsg_frame (units : List LUnit) (st : State) (u : Nat) (m : Kind × Dict) :
    (handleMsg units st u m).queues = st.queues ∧ (handleMsg units st u m).log = st.log ∧
    (handleMsg units st u m).notify = st.notify := by
  unfold handleMsg
  split
  · exact ⟨rfl, rfl, rfl⟩
  · split <;> exact ⟨rfl, rfl, rfl⟩

theorem handleMsg_startedOf (units : List LUnit) (st : State) (u0 : Nat) (m : Kind × Dict) {u : Nat} {k : Kind}
    {d : Dec} (hd : unitDec units u k = some d) :
    startedOf (handleMsg units st u0 m) u k =
      startedOf st u k ++ if u0 = u ∧ m.1 = k then process d m.2 else [] := by
  unfold handleMsg
  by_cases hs : u0 = u ∧ m.1 = k
  · obtain ⟨rfl, rfl⟩ := hs
    simp only [hd, process, and_self, if_true]
    by_cases hc : callExpr d.filt m.2 = true
    · rw [if_pos hc, if_pos hc, startedOf_callAction, if_pos ⟨rfl, rfl⟩]
    · rw [if_neg hc, if_neg hc, List.append_nil]
  · rw [if_neg hs, List.append_nil]
    split
    · rfl
    · split
      · rw [startedOf_callAction, if_neg hs, List.append_nil]
      · rfl

theorem take_queues (units : List LUnit) (st : State) (u v : Nat) :
    (take units st u).queues v = if v = u then (st.queues u).tail else st.queues v := by
  cases hq : st.queues u with
  | nil =>
    rw [take_nil hq]
    split
    · next h => rw [h, hq]; rfl
    · rfl
  | cons m r => rw [take_cons hq, (handleMsg_frame units _ u m).1]; rfl

theorem take_log (units : List LUnit) (st : State) (u : Nat) :
    (take units st u).log = st.log ∧ (take units st u).notify = st.notify := by
  cases hq : st.queues u with
  | nil => rw [take_nil hq]; exact ⟨rfl, rfl⟩
  | cons m r => rw [take_cons hq]; exact (handleMsg_frame units _ u m).2

theorem step_notify (units : List LUnit) (st : State) (x : Step) : (step units st x).notify = st.notify := by
  cases x with
  | fire e => rfl
  | take u => exact (take_log units st u).2
  | emit r ek name kw => cases ek <;> rfl
  | finish r => rfl

theorem exec_notify (units : List LUnit) (s : List Step) : (exec units s).notify = (init units).notify :=
  foldl_inv (P := fun st => st.notify = (init units).notify) (fun st x h => (step_notify units st x).trans h) s rfl

/-- THE queue invariant: what was started plus what is still queued is exactly what the spec demands for the
occurrences handed over so far; and queues exist only for the units -/
structure Inv (units : List LUnit) (st : State) : Prop where
  wf : WF units st.notify
  owed : ∀ u k d, unitDec units u k = some d →
    startedOf st u k ++ pendingList d k (st.queues u) = Spec.expected d st.log
  onUnits : ∀ u, units.length ≤ u → st.queues u = []

/-- the clauses do not read `emitted`, `nextId` and `finished` -/
theorem Inv.frame {units} {st : State} (h : Inv units st) (em n fin) :
    Inv units { st with emitted := em, nextId := n, finished := fin } :=
  ⟨h.wf, h.owed, h.onUnits⟩

theorem inv_deliver (units : List LUnit) (hok : UnitsOK units) (st : State) (o : Occ) (h : Inv units st) :
    Inv units (deliver st o) := by
  refine ⟨h.wf, fun u k d hd => ?_, fun u hu => ?_⟩
  · show startedOf st u k ++ pendingList d k ((deliver st o).queues u) = Spec.expected d (st.log ++ [o])
    have hl := h.wf.listens hok hd o
    rw [deliver_queues st o (h.wf.nodup _ _), expected_snoc, ← h.owed u k d hd, List.append_assoc]
    congr 1
    by_cases hm : u ∈ st.notify o.kind o.key
    · rw [if_pos hm, pendingList_snoc]
      simp only [← hl, hm, true_and]
    · rw [if_neg hm, if_neg (fun c => hm (hl.2 c).1), List.append_nil]
  · rw [deliver_queues st o (h.wf.nodup _ _), if_neg, h.onUnits u hu]
    intro hm
    obtain ⟨d, hd, _⟩ := (h.wf.mem _ _ _).1 hm
    rw [unitDec, List.getElem?_eq_none hu] at hd
    cases hd

theorem inv_take (units : List LUnit) (st : State) (u0 : Nat) (h : Inv units st) : Inv units (take units st u0) := by
  cases hqu : st.queues u0 with
  | nil => rw [take_nil hqu]; exact h
  | cons m r =>
    obtain ⟨fq, fl, fn⟩ := handleMsg_frame units { st with queues := upd st.queues u0 r } u0 m
    rw [take_cons hqu]
    refine ⟨by rw [fn]; exact h.wf, fun u k d hd => ?_, fun u hu => ?_⟩
    · rw [handleMsg_startedOf units _ u0 m hd, fq, fl]
      show (startedOf st u k ++ _) ++ pendingList d k (upd st.queues u0 r u) = Spec.expected d st.log
      by_cases hu : u0 = u
      · subst hu
        rw [upd_same, ← h.owed u0 k d hd, hqu, pendingList_cons, List.append_assoc]
        simp only [true_and]
      · rw [if_neg (fun c => hu c.1), List.append_nil, upd_other _ _ _ _ (Ne.symm hu)]
        exact h.owed u k d hd
    · rw [fq]
      show upd st.queues u0 r u = []
      by_cases hu0 : u = u0
      · subst hu0; rw [h.onUnits u hu] at hqu; cases hqu
      · rw [upd_other _ _ _ _ hu0]; exact h.onUnits u hu

theorem inv_step (units : List LUnit) (hok : UnitsOK units) (st : State) (x : Step) (h : Inv units st) :
    Inv units (step units st x) := by
  cases x with
  | fire e => exact inv_deliver units hok _ _ (h.frame _ _ _)
  | take u => exact inv_take units st u h
  | emit r ek name kw =>
    cases ek with
    | event => exact inv_deliver units hok _ _ (h.frame _ _ _)
    | state => exact h.frame _ _ _
    | service => exact h.frame _ _ _
  | finish r => exact h.frame _ _ _

theorem inv_exec (units : List LUnit) (hok : UnitsOK units) (s : List Step) : Inv units (exec units s) :=
  foldl_inv (inv_step units hok) s ⟨init_WF units, fun _ _ _ _ => rfl, fun _ _ => rfl⟩

theorem ctxInv_step (units : List LUnit) (st : State) (x : Step) (h : CtxInv st.started st.t2c) :
    CtxInv (step units st x).started (step units st x).t2c := by
  cases x with
  | fire e => exact h
  | take u =>
    show CtxInv (take units st u).started (take units st u).t2c
    cases hq : st.queues u with
    | nil => rw [take_nil hq]; exact h
    | cons m r =>
      rw [take_cons hq]
      unfold handleMsg
      split
      · exact h
      · split
        · exact h.snoc u m.1 _ _
        · exact h
  | emit r ek name kw => cases ek <;> exact h
  | finish r => exact h

theorem ctxInv_exec (units : List LUnit) (s : List Step) : CtxInv (exec units s).started (exec units s).t2c :=
  foldl_inv (P := fun st : State => CtxInv st.started st.t2c) (ctxInv_step units) s CtxInv.nil

/-- the state without its record of terminations; the independence theorems compare it with the run of the schedule
without its `finish` steps (`notFinish`, which serves both machines) -/
def eraseFin (st : State) : State := { st with finished := [] }

def notFinish : Step → Bool
  | .finish _ => false
  | _ => true

theorem eraseFin_step (units : List LUnit) (st : State) (x : Step) (hx : notFinish x = true) :
    eraseFin (step units st x) = step units (eraseFin st) x := by
  cases x with
  | fire e => rfl
  | take u =>
    show eraseFin (take units st u) = take units (eraseFin st) u
    cases hq : st.queues u with
    | nil => rw [take_nil hq, take_nil (st := eraseFin st) hq]
    | cons m r =>
      rw [take_cons hq, take_cons (st := eraseFin st) hq]
      unfold handleMsg
      split
      · rfl
      · split <;> rfl
  | emit r ek name kw => cases ek <;> rfl
  | finish r => cases hx

theorem exec_append (units : List LUnit) (s s' : List Step) :
    exec units (s ++ s') = s'.foldl (step units) (exec units s) := List.foldl_append

theorem drain_unit (units : List LUnit) (u : Nat) (st : State) :
    ∃ s' : List Step, (∀ v, (s'.foldl (step units) st).queues v = if v = u then [] else st.queues v) ∧
      (s'.foldl (step units) st).log = st.log := by
  generalize hq : st.queues u = q
  induction q generalizing st with
  | nil => exact ⟨[], fun v => by split <;> simp_all, rfl⟩
  | cons m r ih =>
    obtain ⟨s', h1, h2⟩ := ih (take units st u) (by rw [take_queues, if_pos rfl, hq]; rfl)
    refine ⟨.take u :: s', fun v => ?_, h2.trans (take_log units st u).1⟩
    show (s'.foldl (step units) (take units st u)).queues v = _
    rw [h1 v, take_queues]
    split <;> rfl

theorem drain_all (units : List LUnit) (n : Nat) (st : State) (hs : ∀ u, n ≤ u → st.queues u = []) :
    ∃ s' : List Step, Quiescent (s'.foldl (step units) st) ∧ (s'.foldl (step units) st).log = st.log := by
  induction n generalizing st with
  | zero => exact ⟨[], fun u => hs u (Nat.zero_le u), rfl⟩
  | succ n ih =>
    obtain ⟨s1, h1, l1⟩ := drain_unit units n st
    obtain ⟨s2, h2, l2⟩ := ih (s1.foldl (step units) st) fun u hu => by
      rw [h1 u]
      split
      · rfl
      · next hne => exact hs u (Nat.lt_of_le_of_ne hu (Ne.symm hne))
    exact ⟨s1 ++ s2, by rw [List.foldl_append]; exact h2, by rw [List.foldl_append, l2, l1]⟩

end Legacy

namespace New

/-- the listener tables are duplicate-free and every entry belongs to a decorator with that kind and key -/
structure WF (decs : List Dec) (n : Table) : Prop where
  nodup : n.Nodup
  dec_of_mem : ∀ i k key, i ∈ n k key → ∃ d, decs[i]? = some d ∧ d.kind = k ∧ d.key = key

namespace WF

theorem of_mem {decs : List Dec} {n : Table} (hwf : WF decs n) {i : Nat} {d : Dec} {k : Kind} {key : String}
    (hd : decs[i]? = some d) (hm : i ∈ n k key) : d.kind = k ∧ d.key = key := by
  obtain ⟨d', hd', h⟩ := hwf.dec_of_mem i k key hm
  rw [hd] at hd'
  cases hd'
  exact h

end WF

theorem mem_startDecs (fl : Flags) (l : List Dec) (i : Nat) (n n' : Table) (hs : startDecs fl i l n = some n')
    (k : Kind) (key : String) (x : Nat) :
    x ∈ n' k key ↔ x ∈ n k key ∨ ∃ j, x = i + j ∧ ∃ d, l[j]? = some d ∧ d.kind = k ∧ d.key = key := by
  induction l generalizing i n with
  | nil =>
    cases hs
    exact (or_iff_left fun ⟨_, _, _, h, _⟩ => by cases h).symm
  | cons d0 rest ih =>
    rw [startDecs] at hs
    split at hs
    · cases hs
    · rw [ih (i + 1) _ hs, Table.mem_add, or_assoc]
      refine or_congr_right (Iff.trans (or_congr_left (and_congr_right fun _ => ?_))
        (exists_add_succ (fun j => ∃ d, (d0 :: rest)[j]? = some d ∧ d.kind = k ∧ d.key = key) i x).symm)
      exact ⟨fun h => ⟨d0, rfl, h⟩, fun ⟨_, hd, h⟩ => by cases hd; exact h⟩

theorem nodup_startDecs (fl : Flags) (l : List Dec) (i : Nat) (n n' : Table) (hs : startDecs fl i l n = some n')
    (h : n.Nodup) : n'.Nodup := by
  induction l generalizing i n with
  | nil => cases hs; exact h
  | cons d0 rest ih =>
    rw [startDecs] at hs
    split at hs
    · cases hs
    · exact ih (i + 1) _ hs (Table.nodup_add n _ _ _ h)

theorem startDecs_mem (fl : Flags) (i0 : Nat) (f : List Dec) (n n' : Table)
    (hs : startDecs fl i0 f n = some n') (j : Nat) (d : Dec) (hj : f[j]? = some d) :
    (i0 + j) ∈ n' d.kind d.key :=
  (mem_startDecs fl f i0 n n' hs _ _ _).2 (Or.inr ⟨j, rfl, d, hj, rfl, rfl⟩)

/-- repaired shape: a start never fails -/
theorem startDecs_current (i : Nat) (l : List Dec) (n : Table) : ∃ n', startDecs Flags.current i l n = some n' := by
  induction l generalizing i n with
  | nil => exact ⟨n, rfl⟩
  | cons d rest ih =>
    rw [startDecs, if_neg (fun h => Bool.false_ne_true h.1)]
    exact ih (i + 1) _

theorem mem_setupFuncs (fl : Flags) (fs : List (List Dec)) (i0 : Nat) (n : Table) (k : Kind) (key : String) (x : Nat)
    (h : x ∈ setupFuncs fl i0 fs n k key) :
    x ∈ n k key ∨ ∃ j, x = i0 + j ∧ ∃ d, fs.flatten[j]? = some d ∧ d.kind = k ∧ d.key = key := by
  induction fs generalizing i0 n with
  | nil => exact Or.inl h
  | cons f rest ih =>
    rw [List.flatten_cons]
    rcases ih _ _ h with h | ⟨j, rfl, d, hd, hk⟩
    · cases hs : startDecs fl i0 f n with
      | none => rw [hs] at h; exact Or.inl h
      | some n' =>
        rw [hs] at h
        rcases (mem_startDecs fl f i0 n n' hs _ _ _).1 h with h | ⟨j, rfl, d, hd, hk⟩
        · exact Or.inl h
        · exact Or.inr ⟨j, rfl, d, by rwa [List.getElem?_append_left (List.getElem?_eq_some_iff.1 hd).1], hk⟩
    · refine Or.inr ⟨f.length + j, Nat.add_assoc _ _ _, d, ?_, hk⟩
      rwa [List.getElem?_append_right (Nat.le_add_right _ _), Nat.add_sub_cancel_left]

theorem nodup_setupFuncs (fl : Flags) (fs : List (List Dec)) (i0 : Nat) (n : Table) (h : n.Nodup) :
    (setupFuncs fl i0 fs n).Nodup := by
  induction fs generalizing i0 n with
  | nil => exact h
  | cons f rest ih =>
    apply ih
    cases hs : startDecs fl i0 f n with
    | none => exact h
    | some n' => exact nodup_startDecs fl f i0 n n' hs h

theorem startDecs_append (fl : Flags) (l l' : List Dec) (i : Nat) (n : Table) :
    startDecs fl i (l ++ l') n = (startDecs fl i l n).bind (startDecs fl (i + l.length) l') := by
  induction l generalizing i n with
  | nil => rfl
  | cons d r ih =>
    rw [List.cons_append, startDecs, startDecs]
    split
    · rfl
    · rw [ih, List.length_cons, Nat.add_right_comm, Nat.add_assoc]

/-- repaired shape: as no start fails, start-up is one pass over the decorators of all functions -/
theorem setupFuncs_current (fs : List (List Dec)) (i0 : Nat) (n : Table) :
    startDecs Flags.current i0 fs.flatten n = some (setupFuncs Flags.current i0 fs n) := by
  induction fs generalizing i0 n with
  | nil => rfl
  | cons f rest ih =>
    obtain ⟨n', hn'⟩ := startDecs_current i0 f n
    rw [List.flatten_cons, startDecs_append, setupFuncs, hn']
    exact ih _ _

/-- repaired shape: EVERY decorator of every function is registered -/
theorem setupFuncs_current_mem (fs : List (List Dec)) (i0 : Nat) (n : Table) (j : Nat) (d : Dec)
    (hj : fs.flatten[j]? = some d) : (i0 + j) ∈ setupFuncs Flags.current i0 fs n d.kind d.key :=
  startDecs_mem _ i0 fs.flatten n _ (setupFuncs_current fs i0 n) j d hj

theorem init_WF (fl : Flags) (fs : List (List Dec)) : WF fs.flatten (init fl fs).listeners := by
  refine ⟨nodup_setupFuncs fl fs 0 _ Table.nodup_empty, fun i k key h => ?_⟩
  rcases mem_setupFuncs fl fs 0 Table.empty k key i h with h | ⟨j, rfl, h⟩
  · cases h
  · rwa [Nat.zero_add]

/-- runs still owed to decorator `i` = `d` by the callback tasks that have not run yet -/
def pendingList (d : Dec) (i : Nat) (q : List (Nat × Occ)) : List Dict :=
  (q.filter (fun m => m.1 = i)).flatMap (fun m => process d (funcArgs m.2))

theorem pendingList_append (d : Dec) (i : Nat) (q q' : List (Nat × Occ)) :
    pendingList d i (q ++ q') = pendingList d i q ++ pendingList d i q' := by
  unfold pendingList
  rw [List.filter_append, List.flatMap_append]

theorem pendingList_cons (d : Dec) (i : Nat) (q : List (Nat × Occ)) (m : Nat × Occ) :
    pendingList d i (m :: q) = (if m.1 = i then process d (funcArgs m.2) else []) ++ pendingList d i q := by
  unfold pendingList
  by_cases h : m.1 = i <;> simp [List.filter, h]

theorem pendingList_map (d : Dec) (i : Nat) (o : Occ) (l : List Nat) (hnd : l.Nodup) :
    pendingList d i (l.map (fun j => (j, o))) = if i ∈ l then process d (funcArgs o) else [] := by
  induction l with
  | nil => rfl
  | cons a r ih =>
    rw [List.nodup_cons] at hnd
    rw [List.map_cons, pendingList_cons, ih hnd.2]
    by_cases h : a = i
    · subst h; simp [hnd.1]
    · simp [h, Ne.symm h]

theorem startedOf_dispatch (st : State) (i0 : Nat) (k : Kind) (args : Dict) (i : Nat) :
    startedOf (dispatch st i0 k args) i = startedOf st i ++ if i0 = i then [args] else [] := by
  refine (filter_map_snoc _ _ _ _).trans ?_
  simp only [decide_eq_true_eq]
  rfl

theorem take_nil {decs : List Dec} {st : State} (h : st.ready = []) : take decs st = st := by
  rw [take, h]

theorem take_cons {decs : List Dec} {st : State} {m : Nat × Occ} {r : List (Nat × Occ)}
    (h : st.ready = m :: r) : take decs st = callback decs { st with ready := r } m.1 m.2 := by
  rw [take, h]

theorem callback_frame (decs : List Dec) (st : State) (i : Nat) (o : Occ) :
    (callback decs st i o).ready = st.ready ∧ (callback decs st i o).log = st.log ∧
    (callback decs st i o).listeners = st.listeners := by
  unfold callback
  split
  · exact ⟨rfl, rfl, rfl⟩
  · split <;> exact ⟨rfl, rfl, rfl⟩

theorem callback_startedOf (decs : List Dec) (st : State) (i0 : Nat) (o : Occ) {i : Nat} {d : Dec}
    (hd : decs[i]? = some d) :
    startedOf (callback decs st i0 o) i = startedOf st i ++ if i0 = i then process d (funcArgs o) else [] := by
  unfold callback
  by_cases hs : i0 = i
  · subst hs
    simp only [hd, process, if_true]
    by_cases hc : callExpr d.filt (funcArgs o) = true
    · rw [if_pos hc, if_pos hc, startedOf_dispatch, if_pos rfl]
    · rw [if_neg hc, if_neg hc, List.append_nil]
  · rw [if_neg hs, List.append_nil]
    split
    · rfl
    · split
      · rw [startedOf_dispatch, if_neg hs, List.append_nil]
      · rfl

theorem take_frame (decs : List Dec) (st : State) :
    (take decs st).ready = st.ready.tail ∧ (take decs st).log = st.log ∧ (take decs st).listeners = st.listeners := by
  cases hr : st.ready with
  | nil => rw [take_nil hr, hr]; exact ⟨rfl, rfl, rfl⟩
  | cons m r => rw [take_cons hr]; exact callback_frame decs _ _ _

theorem step_listeners (decs : List Dec) (st : State) (x : Step) : (step decs st x).listeners = st.listeners := by
  cases x with
  | fire e => rfl
  | take u => exact (take_frame decs st).2.2
  | emit r ek name kw => cases ek <;> rfl
  | finish r => rfl

theorem exec_listeners (fl : Flags) (fs : List (List Dec)) (s : List Step) :
    (exec fl fs s).listeners = (init fl fs).listeners :=
  foldl_inv (P := fun st => st.listeners = (init fl fs).listeners) (fun st x h => (step_listeners _ st x).trans h) s rfl

/-- the callback invariant, as for the legacy queues but only for decorators whose listener is registered; the third
clause (a pending callback was created for a listener of its occurrence's key) is what keeps the others free of runs -/
structure Inv (decs : List Dec) (st : State) : Prop where
  wf : WF decs st.listeners
  owed : ∀ i d, decs[i]? = some d → i ∈ st.listeners d.kind d.key →
    startedOf st i ++ pendingList d i st.ready = Spec.expected d st.log
  pending : ∀ p ∈ st.ready, p.1 ∈ st.listeners p.2.kind p.2.key
  unregistered : ∀ i d, decs[i]? = some d → i ∉ st.listeners d.kind d.key → startedOf st i = []

theorem Inv.frame {decs} {st : State} (h : Inv decs st) (em n fin) :
    Inv decs { st with emitted := em, nextId := n, finished := fin } :=
  ⟨h.wf, h.owed, h.pending, h.unregistered⟩

theorem inv_deliver (decs : List Dec) (st : State) (o : Occ) (h : Inv decs st) : Inv decs (deliver st o) := by
  refine ⟨h.wf, fun i d hd hreg => ?_, fun p hp => ?_, h.unregistered⟩
  · show startedOf st i ++ pendingList d i (st.ready ++ _) = Spec.expected d (st.log ++ [o])
    have hl : i ∈ st.listeners o.kind o.key ↔ o.kind = d.kind ∧ o.key = d.key :=
      ⟨fun hm => ⟨(h.wf.of_mem hd hm).1.symm, (h.wf.of_mem hd hm).2.symm⟩, fun hm => hm.1 ▸ hm.2 ▸ hreg⟩
    rw [pendingList_append, pendingList_map _ _ _ _ (h.wf.nodup _ _), expected_snoc, ← h.owed i d hd hreg, List.append_assoc]
    simp only [hl]
  · rcases List.mem_append.1 hp with hp | hp
    · exact h.pending p hp
    · obtain ⟨i, hi, rfl⟩ := List.mem_map.1 hp
      exact hi

theorem inv_take (decs : List Dec) (st : State) (h : Inv decs st) : Inv decs (take decs st) := by
  cases hr : st.ready with
  | nil => rw [take_nil hr]; exact h
  | cons m r =>
    obtain ⟨fr, fl, fn⟩ := callback_frame decs { st with ready := r } m.1 m.2
    rw [take_cons hr]
    refine ⟨by rw [fn]; exact h.wf, fun i d hd hreg => ?_, fun p hp => ?_, fun i d hd hn => ?_⟩
    · rw [fn] at hreg
      rw [callback_startedOf decs _ m.1 m.2 hd, fr, fl, List.append_assoc]
      have := h.owed i d hd hreg
      rw [hr, pendingList_cons] at this
      exact this
    · rw [fn]; rw [fr] at hp
      exact h.pending p (hr ▸ List.mem_cons_of_mem _ hp)
    · rw [fn] at hn
      rw [callback_startedOf decs _ m.1 m.2 hd, if_neg, List.append_nil]
      · exact h.unregistered i d hd hn
      · intro e
        have hm := h.pending m (hr ▸ List.mem_cons_self)
        obtain ⟨hk, hkey⟩ := h.wf.of_mem (e ▸ hd) hm
        exact hn (by rw [hk, hkey, ← e]; exact hm)

theorem inv_step (decs : List Dec) (st : State) (x : Step) (h : Inv decs st) : Inv decs (step decs st x) := by
  cases x with
  | fire e => exact inv_deliver decs _ _ (h.frame _ _ _)
  | take u => exact inv_take decs st h
  | emit r ek name kw =>
    cases ek with
    | event => exact inv_deliver decs _ _ (h.frame _ _ _)
    | state => exact h.frame _ _ _
    | service => exact h.frame _ _ _
  | finish r => exact h.frame _ _ _

theorem inv_exec (fl : Flags) (fs : List (List Dec)) (s : List Step) : Inv fs.flatten (exec fl fs s) :=
  foldl_inv (inv_step fs.flatten) s
    ⟨init_WF fl fs, fun _ _ _ _ => rfl, fun _ h => absurd h List.not_mem_nil, fun _ _ _ _ => rfl⟩

theorem exec_append (fl : Flags) (fs : List (List Dec)) (s s' : List Step) :
    exec fl fs (s ++ s') = s'.foldl (step fs.flatten) (exec fl fs s) := List.foldl_append

theorem drain_all (decs : List Dec) (st : State) :
    ∃ s' : List Step, Quiescent (s'.foldl (step decs) st) ∧ (s'.foldl (step decs) st).log = st.log := by
  generalize hq : st.ready = q
  induction q generalizing st with
  | nil => exact ⟨[], hq, rfl⟩
  | cons m r ih =>
    obtain ⟨s', h1, h2⟩ := ih (take decs st) (by rw [(take_frame decs st).1, hq]; rfl)
    exact ⟨.take 0 :: s', h1, h2.trans (take_frame decs st).2.1⟩

theorem ctxInv_step (decs : List Dec) (st : State) (x : Step) (h : CtxInv st.started st.t2c) :
    CtxInv (step decs st x).started (step decs st x).t2c := by
  cases x with
  | fire e => exact h
  | take u =>
    show CtxInv (take decs st).started (take decs st).t2c
    cases hr : st.ready with
    | nil => rw [take_nil hr]; exact h
    | cons m r =>
      rw [take_cons hr]
      unfold callback
      split
      · exact h
      · split
        · exact h.snoc m.1 m.2.kind _ _
        · exact h
  | emit r ek name kw => cases ek <;> exact h
  | finish r => exact h

theorem ctxInv_exec (fl : Flags) (fs : List (List Dec)) (s : List Step) :
    CtxInv (exec fl fs s).started (exec fl fs s).t2c :=
  foldl_inv (P := fun st : State => CtxInv st.started st.t2c) (ctxInv_step fs.flatten) s CtxInv.nil

def eraseFin (st : State) : State := { st with finished := [] }

theorem eraseFin_step (decs : List Dec) (st : State) (x : Step) (hx : Legacy.notFinish x = true) :
    eraseFin (step decs st x) = step decs (eraseFin st) x := by
  cases x with
  | fire e => rfl
  | take u =>
    show eraseFin (take decs st) = take decs (eraseFin st)
    cases hr : st.ready with
    | nil => rw [take_nil hr, take_nil (st := eraseFin st) hr]
    | cons m r =>
      rw [take_cons hr, take_cons (st := eraseFin st) hr]
      unfold callback
      split
      · rfl
      · split <;> rfl
  | emit r ek name kw => cases ek <;> rfl
  | finish r => cases hx

end New

theorem eraseFin_foldl {σ} (erase : σ → σ) (step : σ → Step → σ)
    (hstep : ∀ st x, Legacy.notFinish x = true → erase (step st x) = step (erase st) x)
    (hfin : ∀ st r, erase (step st (.finish r)) = erase st) (s : List Step) (st : σ) :
    erase (s.foldl step st) = (s.filter Legacy.notFinish).foldl step (erase st) := by
  induction s generalizing st with
  | nil => rfl
  | cons x r ih =>
    rw [List.foldl_cons, ih]
    cases x with
    | finish r => rw [hfin]; rfl
    | _ => rw [hstep _ _ rfl]; rfl

end PsModel.C08
