import PsModel.Model.C20
import PsModel.Spec.C20
/-!
# C20 helper lemmas

The recorded version of one package is a fold of `stepV` over the strings its lines contribute (`versionOf_mergeAll`);
`IsBest` characterises the result of that fold without reference to the order, which gives order independence and the
link with `Selected`.  With unique names the decision loop is a filter / any over the table (`decideLoop_spec`),
`decidePkg` agrees with the reference predicates unless it raises (`decidePkg_iff`), and after an installer that did its
job every package of a second run is decided `nothing`.
-/
namespace PsModel.C20
variable {V : Type}

theorem find_eq (t : Table) (n : Str) : find t n = t.find? (fun e => e.name = n) := by
  induction t with
  | nil => rfl
  | cons x xs ih => rw [find, List.find?_cons, ih]; by_cases h : x.name = n <;> simp [h]

theorem find_some_mem (t : Table) (m : Str) (e : Entry) (h : find t m = some e) : e ∈ t ∧ e.name = m := by
  rw [find_eq] at h
  exact ⟨List.mem_of_find?_eq_some h, by simpa using List.find?_some h⟩

theorem find_none_iff (t : Table) (m : Str) : find t m = none ↔ ∀ e ∈ t, e.name ≠ m := by
  rw [find_eq, List.find?_eq_none]; simp only [decide_eq_true_eq, ne_eq]

theorem find_of_mem_nodup (t : Table) (hnd : (t.map (·.name)).Nodup) (e : Entry) (he : e ∈ t) :
    find t e.name = some e := by
  induction t with
  | nil => cases he
  | cons x xs ih =>
    simp only [List.map_cons, List.nodup_cons] at hnd
    simp only [find]
    rcases List.mem_cons.1 he with rfl | he'
    · simp
    · have : x.name ≠ e.name := fun h => hnd.1 (List.mem_map.2 ⟨e, he', h.symm⟩)
      simp only [this, if_false]
      exact ih hnd.2 he'

theorem find_eq_some_iff (t : Table) (hnd : (t.map (·.name)).Nodup) (m : Str) (e : Entry) :
    find t m = some e ↔ e ∈ t ∧ e.name = m :=
  ⟨find_some_mem t m e, fun h => h.2 ▸ find_of_mem_nodup t hnd e h.1⟩

theorem eq_of_name_eq (t : Table) (hnd : (t.map (·.name)).Nodup) (x e : Entry) (hx : x ∈ t) (he : e ∈ t)
    (h : x.name = e.name) : x = e := by
  have := find_of_mem_nodup t hnd x hx
  rw [h, find_of_mem_nodup t hnd e he] at this
  exact (Option.some.inj this).symm

theorem find_filter (t : Table) (hnd : (t.map (·.name)).Nodup) (P : Entry → Bool) (m : Str) :
    find (t.filter P) m = (find t m).filter P := by
  ext y
  rw [find_eq_some_iff _ (List.Pairwise.sublist (List.Sublist.map _ List.filter_sublist) hnd), Option.filter_eq_some_iff,
    find_eq_some_iff t hnd, List.mem_filter]
  exact ⟨fun h => ⟨⟨h.1.1, h.2⟩, h.1.2⟩, fun h => ⟨⟨h.1.1, h.2⟩, h.1.2⟩⟩

theorem find_upsert (t : Table) (e : Entry) (p : Str) :
    find (upsert t e) p = if e.name = p then some e else find t p := by
  induction t with
  | nil => simp [upsert, find]
  | cons x xs ih =>
    simp only [upsert]
    by_cases h : x.name = e.name
    · simp only [h, if_true, find]
      by_cases h2 : e.name = p <;> simp [h2]
    · simp only [h, if_false, find, ih]
      by_cases h2 : x.name = p
      · have : e.name ≠ p := fun h3 => h (h2.trans h3.symm)
        simp [h2, this]
      · simp [h2]

theorem find_modify (t : Table) (n : Str) (f : Entry → Entry) (hf : ∀ e, (f e).name = e.name) (p : Str) :
    find (modify t n f) p = if p = n then (find t p).map f else find t p := by
  have hg : ((fun e : Entry => decide (e.name = p)) ∘ fun x => if x.name = n then f x else x) = fun e => decide (e.name = p) := by
    funext x; by_cases hx : x.name = n <;> simp [hx, hf]
  rw [find_eq, modify, List.find?_map, hg, ← find_eq]
  cases hfd : find t p with
  | none => simp
  | some e =>
    obtain rfl := (find_some_mem t p e hfd).2
    by_cases h : e.name = n <;> simp [h]

theorem UNP_eq : UNP = ['_', 'u', 'n', 'p', 'i', 'n', 'n', 'e', 'd', '_', 'v', 'e', 'r', 's', 'i', 'o', 'n'] :=
  String.toList_ofList

theorem UNP_ne_nil : UNP ≠ [] := by rw [UNP_eq]; exact List.cons_ne_nil _ _

/-- **the generated case split is the hand-written one the lemmas below reason about** – re-proved against
`Gen.REQ_MERGE_ROWS` (read off requirements.py) on every run -/
theorem branch_eq_ref (ver : Ver V) (cur : Option Str) (new : Str) : branch ver cur new = branchRef ver cur new := by
  unfold branch branchRef
  rw [Gen.REQ_MERGE_ROWS]
  -- unfolded definitionally: `simp only` would build a congruence proof through all six rows, which is slow to check
  dsimp only [branchRows, condHolds]
  cases cur with
  | none => rfl
  | some c =>
    by_cases hc : c = []
    · subst hc; rfl
    · by_cases hn : new = UNP <;> by_cases hu : c = UNP
      · simp [hn, hu, UNP_ne_nil]
      · simp [hc, hn, hu]
      · simp [hn, hu, UNP_ne_nil]
      · cases hpc : ver.parse c <;> cases hpn : ver.parse new <;> simp [hc, hn, hu, verCmp, hpc, hpn]
        rename_i a b
        cases h1 : ver.le a b <;> cases h2 : ver.le b a <;> simp

/-- what one accepted line does to the recorded version string of package `name` -/
def stepV (ver : Ver V) (cur : Option Str) (name new : Str) : Option Str :=
  match branch ver cur new with
  | .record => if name = [] then cur else some new
  | .bump => some new
  | .addSource => cur
  | .keep => cur

theorem versionOf_merge1 (ver : Ver V) (site : Str → Option Str) (t : Table) (src : Nat) (name new p : Str) :
    versionOf (merge1 ver site t src name new) p =
      if p = name then stepV ver (versionOf t name) name new else versionOf t p := by
  unfold merge1 stepV
  cases hb : branch ver (versionOf t name) new with
  | record =>
    simp only [getInstalled]
    by_cases hn : name = []
    · subst hn; simp only [if_true]; split
      · next h => rw [h]
      · rfl
    · simp only [hn, if_false, versionOf, find_upsert]
      by_cases hp : p = name
      · subst hp; simp
      · have : ¬ name = p := fun h => hp h.symm
        simp [hp, this]
  | keep => split <;> simp_all
  | addSource =>
    simp only [versionOf]
    rw [find_modify t name (addSrc src) (fun _ => rfl) p]
    by_cases hp : p = name
    · subst hp; simp only [if_true]; cases find t p <;> simp [addSrc]
    · simp [hp]
  | bump =>
    simp only [versionOf]
    rw [find_modify t name (setVer src new) (fun _ => rfl) p]
    by_cases hp : p = name
    · subst hp
      simp only [if_true]
      cases hf : find t p with
      | none =>
        -- nothing recorded is never bumped
        rw [versionOf, hf, Option.map_none, branch_eq_ref] at hb; cases hb
      | some e => simp [setVer]
    · simp [hp]

theorem branch_none (ver : Ver V) (n : Str) : branch ver none n = .record := by rw [branch_eq_ref]; rfl

theorem stepV_none (ver : Ver V) (p n : Str) (hp : p ≠ []) : stepV ver none p n = some n := by
  simp only [stepV, branch_none, hp, if_false]

/-- over the sentinel a pin is recorded, another unpinned line changes nothing: the new string either way -/
theorem stepV_unp (ver : Ver V) (p n : Str) (hp : p ≠ []) : stepV ver (some UNP) p n = some n := by
  by_cases hn : n = UNP
  · simp [stepV, branch_eq_ref, branchRef, UNP_ne_nil, hn]
  · simp [stepV, branch_eq_ref, branchRef, UNP_ne_nil, hn, hp]

theorem stepV_pin_unp (ver : Ver V) (p c : Str) (hc0 : c ≠ []) (hc : c ≠ UNP) : stepV ver (some c) p UNP = some c := by
  simp [stepV, branch_eq_ref, branchRef, hc0, hc]

theorem stepV_pins (ver : Ver V) (p c n : Str) (a b : V) (hc0 : c ≠ []) (hc : c ≠ UNP) (hn : n ≠ UNP)
    (ha : ver.parse c = some a) (hb : ver.parse n = some b) :
    stepV ver (some c) p n = if ver.le a b && !ver.le b a then some n else some c := by
  simp only [stepV, branch_eq_ref, branchRef, hc0, hc, hn, ha, hb, if_false, false_and, and_false]
  cases ver.le a b <;> cases ver.le b a <;> rfl

/-- with an empty package name nothing is ever recorded (`get_installed_version("")` raises) -/
theorem foldl_stepV_nil (ver : Ver V) (ns : List Str) :
    ns.foldl (fun c n => stepV ver c [] n) none = none := by
  induction ns with
  | nil => rfl
  | cons n ns ih => simpa [stepV, branch_none] using ih

/-- the new-version strings that lines contribute to package `p` (after parsing, the optional fix and the key map) -/
def newsFor (cfg : Cfg) (ver : Ver V) (p : Str) (ls : List (Nat × Str)) : List Str :=
  ls.filterMap (fun l => match meaning cfg ver l.2 with
    | none => none
    | some (key, pin) => if key = p then some (newVersion pin) else none)

theorem versionOf_foldl (cfg : Cfg) (ver : Ver V) (site : Str → Option Str) (ls : List (Nat × Str)) (t : Table) (p : Str) :
    versionOf (ls.foldl (processLine cfg ver site) t) p =
      (newsFor cfg ver p ls).foldl (fun c n => stepV ver c p n) (versionOf t p) := by
  induction ls generalizing t with
  | nil => rfl
  | cons l ls ih =>
    rw [List.foldl_cons, ih]
    simp only [newsFor, List.filterMap_cons, processLine]
    cases meaning cfg ver l.2 with
    | none => rfl
    | some kp =>
      obtain ⟨key, pin⟩ := kp
      simp only [versionOf_merge1]
      by_cases hk : key = p
      · subst hk; simp only [if_true, List.foldl_cons]
      · have : ¬ p = key := fun h => hk h.symm
        simp only [hk, this, if_false]

theorem mem_newsFor (cfg : Cfg) (ver : Ver V) (p : Str) (ls : List (Nat × Str)) (n : Str) :
    n ∈ newsFor cfg ver p ls ↔ ∃ l ∈ ls, ∃ pin, meaning cfg ver l.2 = some (p, pin) ∧ n = newVersion pin := by
  simp only [newsFor, List.mem_filterMap]
  constructor
  · rintro ⟨l, hl, h⟩
    refine ⟨l, hl, ?_⟩
    cases hpl : meaning cfg ver l.2 with
    | none => simp [hpl] at h
    | some np =>
      obtain ⟨name, pin⟩ := np
      simp only [hpl] at h
      by_cases hn : name = p
      · subst hn
        simp only [if_true, Option.some.injEq] at h
        exact ⟨pin, rfl, h.symm⟩
      · simp [hn] at h
  · rintro ⟨l, hl, pin, hpl, hn⟩
    exact ⟨l, hl, by simp [hpl, hn]⟩

theorem meaning_some (cfg : Cfg) (ver : Ver V) (raw k : Str) (pin : Option Str) (h : meaning cfg ver raw = some (k, pin)) :
    ∃ n, parseLine cfg raw = some (n, pin) ∧ rejectedByFix cfg ver pin = false ∧ k = keyOf cfg n := by
  unfold meaning at h
  split at h
  · cases h
  · next n q hpl =>
    by_cases hr : rejectedByFix cfg ver q = true
    · rw [if_pos hr] at h; cases h
    · rw [if_neg hr] at h; cases h; exact ⟨n, hpl, Bool.eq_false_iff.2 hr, rfl⟩
theorem versionOf_mergeAll (cfg : Cfg) (ver : Ver V) (site : Str → Option Str) (ls : List (Nat × Str)) (p : Str) :
    versionOf (mergeAll cfg ver site ls) p = (newsFor cfg ver p ls).foldl (fun c n => stepV ver c p n) none := by
  unfold mergeAll
  exact versionOf_foldl cfg ver site ls [] p

/-- a new-version string of the well-formed fragment: the sentinel or something `Version()` accepts -/
def GoodNew (ver : Ver V) (n : Str) : Prop := n = UNP ∨ ∃ a, ver.parse n = some a

/-- `u ≤ v` as versions wherever both parse: the comparison clause of `Selected`, on strings -/
def LeS (ver : Ver V) (u v : Str) : Prop :=
  ∀ a b, ver.parse u = some a → ver.parse v = some b → ver.le a b = true

/-- order-free characterisation of the recorded version of one package given the strings `ns` seen so far -/
def IsBest (ver : Ver V) (ns : List Str) (r : Option Str) : Prop :=
  match r with
  | none => ns = []
  | some v => if v = UNP then ns ≠ [] ∧ ∀ x ∈ ns, x = UNP
              else v ∈ ns ∧ ∀ u ∈ ns, u ≠ UNP → LeS ver u v

theorem isBest_snoc_new (ver : Ver V) (ok : VerOk ver) (pre : List Str) (n : Str) (hn : n ≠ UNP)
    (hle : ∀ u ∈ pre, u ≠ UNP → LeS ver u n) : IsBest ver (pre ++ [n]) (some n) := by
  simp only [IsBest, hn, if_false]
  refine ⟨by simp, fun u hu hne => ?_⟩
  rcases List.mem_append.1 hu with hu | hu
  · exact hle u hu hne
  · intro x y hx hy
    rw [List.mem_singleton.1 hu] at hx; rw [hx] at hy; cases hy; exact ok.refl x

theorem isBest_snoc_same (ver : Ver V) (pre : List Str) (c n : Str) (h : IsBest ver pre (some c))
    (hu : c = UNP → n = UNP) (hle : c ≠ UNP → n ≠ UNP → LeS ver n c) : IsBest ver (pre ++ [n]) (some c) := by
  simp only [IsBest] at h ⊢
  by_cases hc : c = UNP
  · simp only [hc, if_true] at h ⊢
    exact ⟨by simp, fun x hx => (List.mem_append.1 hx).elim (h.2 x) (fun hx => by rw [List.mem_singleton.1 hx]; exact hu hc)⟩
  · simp only [hc, if_false] at h ⊢
    refine ⟨List.mem_append_left _ h.1, fun u hu' hne => ?_⟩
    rcases List.mem_append.1 hu' with hu' | hu'
    · exact h.2 u hu' hne
    · rw [List.mem_singleton.1 hu'] at hne ⊢; exact hle hc hne

theorem isBest_step (ver : Ver V) (ok : VerOk ver) (p : Str) (hp : p ≠ []) (pre : List Str) (cur : Option Str)
    (n : Str) (hpre : ∀ x ∈ pre, GoodNew ver x) (hn : GoodNew ver n) (h : IsBest ver pre cur) :
    IsBest ver (pre ++ [n]) (stepV ver cur p n) := by
  have fresh : (∀ x ∈ pre, x = UNP) → IsBest ver (pre ++ [n]) (some n) := fun hall => by
    by_cases hu : n = UNP
    · simp only [hu, IsBest, if_true]
      exact ⟨by simp, fun x hx => (List.mem_append.1 hx).elim (hall x) (by simp)⟩
    · exact isBest_snoc_new ver ok pre n hu (fun u hu' hne => absurd (hall u hu') hne)
  cases cur with
  | none =>
    simp only [IsBest] at h
    rw [stepV_none ver p n hp]
    exact fresh (by rw [h]; simp)
  | some c =>
    by_cases hc : c = UNP
    · rw [hc, stepV_unp ver p n hp]
      simp only [IsBest, hc, if_true] at h
      exact fresh h.2
    · -- a pin `c` is recorded; it is one of the strings seen, hence a version
      have hcb : c ∈ pre ∧ ∀ u ∈ pre, u ≠ UNP → LeS ver u c := by simpa only [IsBest, hc, if_false] using h
      obtain ⟨a, ha⟩ : ∃ a, ver.parse c = some a := (hpre c hcb.1).resolve_left hc
      have hc0 : c ≠ [] := fun h0 => by rw [h0, ok.empty] at ha; cases ha
      by_cases hu : n = UNP
      · rw [hu, stepV_pin_unp ver p c hc0 hc]
        exact isBest_snoc_same ver pre c UNP h (fun e => absurd e hc) (fun _ e => absurd rfl e)
      · obtain ⟨b, hb⟩ : ∃ b, ver.parse n = some b := hn.resolve_left hu
        rw [stepV_pins ver p c n a b hc0 hc hu ha hb]
        by_cases hlt : (ver.le a b && !ver.le b a) = true
        · rw [if_pos hlt]
          have hab : ver.le a b = true := (Bool.and_eq_true _ _ ▸ hlt).1
          refine isBest_snoc_new ver ok pre n hu (fun u hu' hne x y hx hy => ?_)
          rw [hb] at hy; cases hy
          exact ok.trans _ _ _ (hcb.2 u hu' hne x a hx ha) hab
        · rw [if_neg hlt]
          have hba : ver.le b a = true := by
            rcases ok.total a b with t | t
            · simpa [t] using hlt
            · exact t
          refine isBest_snoc_same ver pre c n h (fun e => absurd e hc) (fun _ _ x y hx hy => ?_)
          rw [hb] at hx; rw [ha] at hy; cases hx; cases hy; exact hba

theorem isBest_foldl (ver : Ver V) (ok : VerOk ver) (p : Str) (hp : p ≠ []) (pre ns : List Str) (cur : Option Str)
    (hall : ∀ x ∈ pre ++ ns, GoodNew ver x) (h : IsBest ver pre cur) :
    IsBest ver (pre ++ ns) (ns.foldl (fun c n => stepV ver c p n) cur) := by
  induction ns generalizing pre cur with
  | nil => rwa [List.append_nil]
  | cons n ns ih =>
    rw [List.append_cons] at hall ⊢
    exact ih (pre ++ [n]) _ hall (isBest_step ver ok p hp pre cur n (fun x hx => hall x (by simp [hx])) (hall n (by simp)) h)

theorem isBest_mem (ver : Ver V) (ns : List Str) (v : Str) (h : IsBest ver ns (some v)) : v ∈ ns := by
  simp only [IsBest] at h
  split at h
  · next hv =>
    obtain ⟨x, hx⟩ := List.exists_mem_of_ne_nil ns h.1
    rw [hv, ← h.2 x hx]; exact hx
  · exact h.1

theorem isBest_unique (ver : Ver V) (ns ns' : List Str) (r r' : Option Str)
    (hgood : ∀ x ∈ ns, GoodNew ver x) (hmem : ∀ x, x ∈ ns ↔ x ∈ ns')
    (h : IsBest ver ns r) (h' : IsBest ver ns' r') : VEquiv ver r r' := by
  cases r with
  | none =>
    cases r' with
    | none => trivial
    | some v' =>
      have := (hmem v').2 (isBest_mem ver ns' v' h')
      rw [show ns = [] from h] at this; cases this
  | some v =>
    cases r' with
    | none =>
      have := (hmem v).1 (isBest_mem ver ns v h)
      rw [show ns' = [] from h'] at this; cases this
    | some v' =>
      have hv := (hmem v).1 (isBest_mem ver ns v h)
      have hv' := (hmem v').2 (isBest_mem ver ns' v' h')
      simp only [IsBest] at h h'
      by_cases hu : v = UNP
      · rw [if_pos hu] at h; exact Or.inl (hu.trans (h.2 v' hv').symm)
      · by_cases hu' : v' = UNP
        · rw [if_pos hu'] at h'; exact absurd (h'.2 v hv) hu
        · rw [if_neg hu] at h; rw [if_neg hu'] at h'
          obtain ⟨a, ha⟩ := (hgood v h.1).resolve_left hu
          obtain ⟨b, hb⟩ := (hgood v' hv').resolve_left hu'
          exact Or.inr ⟨a, b, ha, hb, h'.2 v hv hu a b ha hb, h.2 v' hv' hu' b a hb ha⟩
theorem news_good_of_lines (cfg : Cfg) (ver : Ver V) (p : Str) (ls : List (Nat × Str))
    (h : ∀ l ∈ ls, GoodLine cfg ver l.2) : ∀ x ∈ newsFor cfg ver p ls, GoodNew ver x := by
  intro x hx
  obtain ⟨l, hl, pin, hpl, rfl⟩ := (mem_newsFor cfg ver p ls x).1 hx
  obtain ⟨n, hn, _, _⟩ := meaning_some cfg ver l.2 p pin hpl
  cases pin with
  | none => left; rfl
  | some v => exact h l hl n v hn

theorem news_good_of_fix (cfg : Cfg) (ver : Ver V) (hfix : cfg.validateFirstPin = true) (p : Str)
    (ls : List (Nat × Str)) : ∀ x ∈ newsFor cfg ver p ls, GoodNew ver x := by
  intro x hx
  obtain ⟨l, _, pin, hpl, rfl⟩ := (mem_newsFor cfg ver p ls x).1 hx
  obtain ⟨n, _, hr, _⟩ := meaning_some cfg ver l.2 p pin hpl
  cases pin with
  | none => left; rfl
  | some v =>
    right
    simp only [rejectedByFix, hfix, Bool.true_and] at hr
    cases hv : ver.parse v with
    | none => simp [hv] at hr
    | some a => exact ⟨a, hv⟩

theorem best_mergeAll (cfg : Cfg) (ver : Ver V) (ok : VerOk ver) (site : Str → Option Str) (ls : List (Nat × Str))
    (p : Str) (hp : p ≠ []) (hg : ∀ x ∈ newsFor cfg ver p ls, GoodNew ver x) :
    IsBest ver (newsFor cfg ver p ls) (versionOf (mergeAll cfg ver site ls) p) := by
  rw [versionOf_mergeAll]
  exact isBest_foldl ver ok p hp [] (newsFor cfg ver p ls) none hg rfl
theorem order_of_good (cfg : Cfg) (ver : Ver V) (ok : VerOk ver) (site site' : Str → Option Str)
    (ls ls' : List (Nat × Str)) (hperm : ls.Perm ls') (p : Str)
    (hg : ∀ x ∈ newsFor cfg ver p ls, GoodNew ver x) :
    VEquiv ver (versionOf (mergeAll cfg ver site ls) p) (versionOf (mergeAll cfg ver site' ls') p) := by
  by_cases hp : p = []
  · subst hp
    rw [versionOf_mergeAll, versionOf_mergeAll, foldl_stepV_nil, foldl_stepV_nil]; trivial
  · have hmem : ∀ x, x ∈ newsFor cfg ver p ls ↔ x ∈ newsFor cfg ver p ls' := fun _ => (hperm.filterMap _).mem_iff
    exact isBest_unique ver _ _ _ _ hg hmem (best_mergeAll cfg ver ok site ls p hp hg)
      (best_mergeAll cfg ver ok site' ls' p hp (fun x hx => hg x ((hmem x).2 hx)))
/-- two lines that record different strings depending on their order, one of them not a version, refute order
independence without a hypothesis on the lines -/
theorem not_order_full (cfg : Cfg) (ver : Ver V) (site : Str → Option Str) (a b : Nat × Str) (p u v : Str)
    (hab : versionOf (mergeAll cfg ver site [a, b]) p = some u) (hba : versionOf (mergeAll cfg ver site [b, a]) p = some v)
    (hne : u ≠ v) (hu : ver.parse u = none) :
    ¬ ∀ ls ls' : List (Nat × Str), ls.Perm ls' → ∀ p,
        VEquiv ver (versionOf (mergeAll cfg ver site ls) p) (versionOf (mergeAll cfg ver site ls') p) := by
  intro h
  have := h _ _ (List.Perm.swap b a []) p
  rw [hab, hba] at this
  rcases this with h | ⟨x, _, hx, _⟩
  · exact hne h
  · rw [hu] at hx; cases hx

theorem specLine_some (ver : Ver V) (raw n : Str) (pin : Option Str) (h : specLine ver raw = some (n, pin)) :
    (∃ m, parseLineWith SPEC_PATS false raw = some (m, pin) ∧ n = normName m ∧ plainName m = true) ∧
      ∀ v, pin = some v → ∃ a, ver.parse v = some a := by
  unfold specLine at h
  split at h
  · next m hpl =>
    by_cases hm : plainName m = true
    · rw [if_pos hm] at h; cases h; exact ⟨⟨m, hpl, rfl, hm⟩, fun _ hv => by cases hv⟩
    · rw [if_neg hm] at h; cases h
  · next m v hpl =>
    by_cases hm : (plainName m && (ver.parse v).isSome) = true
    · rw [if_pos hm] at h; cases h
      rw [Bool.and_eq_true] at hm
      exact ⟨⟨m, hpl, rfl, hm.1⟩, fun w hw => by cases hw; exact Option.isSome_iff_exists.1 hm.2⟩
    · rw [if_neg hm] at h; cases h
  · cases h

theorem plainName_ne_nil (n : Str) (h : plainName n = true) : n ≠ [] := by
  intro e; subst e; simp [plainName] at h

theorem normName_ne_nil (n : Str) (h : n ≠ []) : normName n ≠ [] := by
  cases n with
  | nil => exact absurd rfl h
  | cons c cs =>
    unfold normName
    split
    · split <;> simp
    · simp

/-- `IsBest` on the strings is `Selected` on the meanings they come from -/
theorem selected_of_isBest (ver : Ver V) (ok : VerOk ver) (ms : List (Str × Option Str)) (p : Str) (ns : List Str)
    (r : Option Str) (hnews : ∀ n, n ∈ ns ↔ ∃ pin, (p, pin) ∈ ms ∧ n = newVersion pin)
    (hvalid : ∀ u, (p, some u) ∈ ms → ∃ a, ver.parse u = some a) (h : IsBest ver ns r) : Selected ver ms p r := by
  have notunp : ∀ u, (p, some u) ∈ ms → u ≠ UNP := by
    intro u hu e
    obtain ⟨a, ha⟩ := hvalid u hu
    rw [e, ok.unp] at ha; cases ha
  cases r with
  | none =>
    intro m hm e
    have : newVersion m.2 ∈ ns := (hnews _).2 ⟨m.2, by rw [← e]; exact hm, rfl⟩
    rw [show ns = [] from h] at this; cases this
  | some v =>
    obtain ⟨pin, hm, e⟩ := (hnews v).1 (isBest_mem ver ns v h)
    simp only [IsBest] at h
    simp only [Selected]
    by_cases hv : v = UNP
    · rw [if_pos hv] at h ⊢
      have nopin : ∀ u, (p, some u) ∉ ms := fun u hu => notunp u hu (h.2 u ((hnews u).2 ⟨some u, hu, rfl⟩))
      refine ⟨?_, nopin⟩
      cases pin with
      | none => exact hm
      | some u => exact absurd hm (nopin u)
    · rw [if_neg hv] at h ⊢
      constructor
      · cases pin with
        | none => exact absurd e hv
        | some u => rw [show v = u from e]; exact hm
      · intro u hu a b ha hb
        exact h.2 u ((hnews u).2 ⟨some u, hu, rfl⟩) (notunp u hu) a b ha hb

theorem selected_mergeAll (cfg : Cfg) (ver : Ver V) (ok : VerOk ver) (site : Str → Option Str)
    (ls : List (Nat × Str)) (hspec : ∀ l ∈ ls, meaning cfg ver l.2 = specLine ver l.2) (p : Str) :
    Selected ver (ls.filterMap (fun l => specLine ver l.2)) p (versionOf (mergeAll cfg ver site ls) p) := by
  have hnews : ∀ n, n ∈ newsFor cfg ver p ls ↔
      ∃ pin, (p, pin) ∈ ls.filterMap (fun l => specLine ver l.2) ∧ n = newVersion pin := by
    intro n
    simp only [mem_newsFor, List.mem_filterMap]
    constructor
    · rintro ⟨l, hl, pin, hpl, hn⟩; exact ⟨pin, ⟨l, hl, by rw [← hspec l hl]; exact hpl⟩, hn⟩
    · rintro ⟨pin, ⟨l, hl, hpl⟩, hn⟩; exact ⟨l, hl, pin, by rw [hspec l hl]; exact hpl, hn⟩
  have hvalid : ∀ q pin, (q, pin) ∈ ls.filterMap (fun l => specLine ver l.2) →
      q ≠ [] ∧ ∀ v, pin = some v → ∃ a, ver.parse v = some a := by
    intro q pin h
    obtain ⟨l, _, hl⟩ := List.mem_filterMap.1 h
    obtain ⟨⟨m, _, hq, hm⟩, hv⟩ := specLine_some ver l.2 q pin hl
    exact ⟨by rw [hq]; exact normName_ne_nil m (plainName_ne_nil m hm), hv⟩
  by_cases hp : p = []
  · subst hp
    rw [versionOf_mergeAll, foldl_stepV_nil]
    exact fun m hm => (hvalid m.1 m.2 hm).1
  · have hg : ∀ x ∈ newsFor cfg ver p ls, GoodNew ver x := by
      intro x hx
      obtain ⟨pin, hm, rfl⟩ := (hnews x).1 hx
      cases pin with
      | none => left; rfl
      | some v => right; exact (hvalid p _ hm).2 v rfl
    exact selected_of_isBest ver ok _ p _ _ hnews (fun u hu => (hvalid p _ hu).2 u rfl)
      (best_mergeAll cfg ver ok site ls p hp hg)

theorem strip_allWs (s : Str) (h : ∀ c ∈ s, isWs c = true) : strip s = [] := by
  have h1 : lstrip s = [] := by simpa [lstrip] using List.dropWhile_append_of_pos (l₂ := []) h
  unfold strip
  rw [h1]
  rfl

/-! the shape parameters read off the source, in the form the lemmas use them; every `rfl` here is re-checked against
`Gen/ReqTbl.lean` on every run -/
theorem mark_eq : Gen.REQ_COMMENT_MARK = '#' := rfl
theorem skipBlank_eq : Gen.REQ_SKIP_BLANK = true := rfl
theorem maxParts_eq : Gen.REQ_MAX_PARTS = 2 := rfl
theorem pinSep_eq : Gen.REQ_PIN_SEP = ('=', '=') := rfl
theorem optinGuard_eq : Gen.REQ_OPTIN_GUARD = true := rfl
theorem body_eq (raw : Str) : body raw = strip (cutComment raw) := rfl

theorem processLine_of_parse_none (cfg : Cfg) (ver : Ver V) (site : Str → Option Str) (t : Table) (l : Nat × Str)
    (h : parseLine cfg l.2 = none) : processLine cfg ver site t l = t := by
  simp only [processLine, meaning, h]

theorem parseLine_of_body_nil (cfg : Cfg) (raw : Str) (h : body raw = []) : parseLine cfg raw = none := by
  rw [parseLine, parseLineWith, h, skipBlank_eq]; rfl

theorem parseLine_of_parts_none (cfg : Cfg) (raw : Str) (h : parseParts cfg.specPats cfg.nameCheck (body raw) = none) :
    parseLine cfg raw = none := by
  rw [parseLine, parseLineWith, h]; exact ite_self none

theorem parseParts_of_specPat (pats : List Str) (nc : Bool) (pkg : Str) (h : hasSpecPat pats pkg = true) :
    parseParts pats nc pkg = none := by
  rw [parseParts, if_pos h]

theorem parseParts_of_many_parts (pats : List Str) (nc : Bool) (pkg : Str) (h : 2 < (splitEq pkg []).length) :
    parseParts pats nc pkg = none := by
  unfold parseParts
  cases hs : splitEq pkg [] with
  | nil => exact ite_self none
  | cons n tl =>
    rw [hs] at h
    cases tl with
    | nil => simp at h
    | cons v rest =>
      have : rest.length + 2 > Gen.REQ_MAX_PARTS := by rw [maxParts_eq]; simpa using h
      simp only [if_pos this, ite_self]

theorem hasSub_append (pat pre post : Str) : hasSub pat (pre ++ pat ++ post) = true := by
  induction pre with
  | nil =>
    show hasSub pat (pat ++ post) = true
    cases hp : pat ++ post with
    | nil =>
      have : pat = [] := by
        cases pat with
        | nil => rfl
        | cons _ _ => simp at hp
      simp [hasSub, this]
    | cons c cs =>
      simp only [hasSub, Bool.or_eq_true]
      left
      rw [← hp, List.isPrefixOf_iff_prefix]
      exact List.prefix_append pat post
  | cons c cs ih =>
    simp only [List.cons_append, hasSub, Bool.or_eq_true]
    right
    simpa using ih

theorem hasSpecPat_of_sub (pats : List Str) (pat pre post : Str) (hp : pat ∈ pats) :
    hasSpecPat pats (pre ++ pat ++ post) = true := by
  simp only [hasSpecPat, List.any_eq_true]
  exact ⟨pat, hp, hasSub_append pat pre post⟩

theorem cutComment_append (raw rest : Str) (h : '#' ∉ raw) : cutComment (raw ++ rest) = raw ++ cutComment rest :=
  List.takeWhile_append_of_pos (fun _ hc => bne_iff_ne.2 (fun e => h (mark_eq ▸ e ▸ hc)))

theorem cutComment_append_hash (raw tail : Str) (h : '#' ∉ raw) : cutComment (raw ++ '#' :: tail) = raw := by
  rw [cutComment_append raw _ h]; exact List.append_nil raw

theorem cutComment_no_hash (raw : Str) (h : '#' ∉ raw) : cutComment raw = raw := by
  simpa [cutComment] using cutComment_append raw [] h

theorem foldl_filter_irrelevant {α β} (f : β → α → β) (P : α → Bool) (h : ∀ b a, P a = false → f b a = b)
    (ls : List α) (b : β) : ls.foldl f b = (ls.filter P).foldl f b := by
  rw [List.foldl_filter]
  congr 1
  funext x y
  by_cases hp : P y = true
  · rw [if_pos hp]
  · rw [if_neg hp, h x y (Bool.not_eq_true _ ▸ hp)]

theorem rget_eq (r : Rec) (n : Str) : rget r n = (r.find? (fun kv => kv.1 = n)).map (·.2) := by
  induction r with
  | nil => rfl
  | cons kv rs ih => rw [rget, List.find?_cons, ih]; by_cases h : kv.1 = n <;> simp [h]

theorem rget_filter_key (r : Rec) (f : Str → Bool) (m : Str) :
    rget (r.filter (fun kv => f kv.1)) m = if f m then rget r m else none := by
  rw [rget_eq, rget_eq, List.find?_filter]
  by_cases hf : f m = true
  · rw [if_pos hf]
    congr 2
    funext kv
    by_cases hk : kv.1 = m <;> simp [hk, hf]
  · rw [if_neg hf, Option.map_eq_none_iff, List.find?_eq_none]
    intro kv _ h
    simp only [decide_eq_true_eq] at h
    exact hf (h.2 ▸ h.1)

theorem rget_rpop (r : Rec) (n m : Str) : rget (rpop r n) m = if m = n then none else rget r m := by
  rw [rpop, rget_filter_key r (fun k => decide (k ≠ n)) m]
  by_cases h : m = n <;> simp [h]

theorem rget_rset (r : Rec) (n v m : Str) : rget (rset r n v) m = if n = m then some v else rget r m := by
  induction r with
  | nil => simp [rset, rget]
  | cons kv rs ih =>
    obtain ⟨k, w⟩ := kv
    simp only [rset]
    by_cases hk : k = n
    · subst hk
      simp only [if_true, rget]
      by_cases hm : k = m <;> simp [hm]
    · simp only [hk, if_false, rget, ih]
      by_cases hm : k = m
      · have : ¬ n = m := fun e => hk (hm.trans e.symm)
        simp [hm, this]
      · simp [hm]

def keys (r : Rec) : List Str := r.map (·.1)

theorem rget_none_iff (r : Rec) (m : Str) : rget r m = none ↔ m ∉ keys r := by
  rw [rget_eq, Option.map_eq_none_iff, List.find?_eq_none, keys, List.mem_map]
  exact ⟨fun h ⟨kv, hkv, e⟩ => h kv hkv (decide_eq_true e), fun h kv hkv e => h ⟨kv, hkv, of_decide_eq_true e⟩⟩

theorem rget_mem (r : Rec) (m v : Str) (h : rget r m = some v) : (m, v) ∈ r := by
  rw [rget_eq, Option.map_eq_some_iff] at h
  obtain ⟨kv, hf, rfl⟩ := h
  have : kv.1 = m := by simpa using List.find?_some hf
  subst this
  exact List.mem_of_find?_eq_some hf

theorem nodup_rset (r : Rec) (n v : Str) (h : (keys r).Nodup) : (keys (rset r n v)).Nodup := by
  induction r with
  | nil => exact List.nodup_cons.2 ⟨List.not_mem_nil, List.nodup_nil⟩
  | cons kv rs ih =>
    obtain ⟨k, w⟩ := kv
    rw [keys, List.map_cons, List.nodup_cons] at h
    rw [rset]
    by_cases hk : k = n
    · rw [if_pos hk]; exact List.nodup_cons.2 h
    · rw [if_neg hk]
      refine List.nodup_cons.2 ⟨fun hm => ?_, ih h.2⟩
      -- `k` would be found in `rset rs n v`, hence (being another key than `n`) in `rs`
      have hf := mt (rget_none_iff (rset rs n v) k).1 (fun hn => hn hm)
      rw [rget_rset, if_neg (Ne.symm hk)] at hf
      exact hf ((rget_none_iff rs k).2 h.1)

theorem rget_filterMap (r : Rec) (g : Str × Str → Option (Str × Str)) (hg : ∀ kv kv', g kv = some kv' → kv'.1 = kv.1)
    (hnd : (keys r).Nodup) (m : Str) :
    rget (r.filterMap g) m = match rget r m with
      | some v => (g (m, v)).map (·.2)
      | none => none := by
  induction r with
  | nil => simp [rget]
  | cons kv rs ih =>
    obtain ⟨k, v⟩ := kv
    simp only [keys, List.map_cons, List.nodup_cons] at hnd
    have ih' := ih hnd.2
    simp only [List.filterMap_cons, rget]
    by_cases hk : k = m
    · subst hk
      have hnone : rget rs k = none := (rget_none_iff rs k).2 hnd.1
      simp only [if_true]
      cases hgk : g (k, v) with
      | none => simp only [Option.map_none]; rw [ih', hnone]
      | some kv' =>
        have := hg _ _ hgk
        obtain ⟨k', v'⟩ := kv'
        simp only at this
        subst this
        simp [rget]
    · simp only [hk, if_false]
      cases hgk : g (k, v) with
      | none => simp only; exact ih'
      | some kv' =>
        have := hg _ _ hgk
        obtain ⟨k', v'⟩ := kv'
        simp only at this
        subst this
        simp only [rget, hk, if_false]; exact ih'

theorem truthy_some (x : Option Str) (i : Str) (h : truthy x = some i) : x = some i ∧ i ≠ [] := by
  cases x with
  | none => simp [truthy] at h
  | some j =>
    cases j with
    | nil => simp [truthy] at h
    | cons c cs => simp only [truthy, Option.some.injEq] at h; subst h; simp

theorem truthy_of_ne (i : Str) (h : i ≠ []) : truthy (some i) = some i := by
  cases i with
  | nil => exact absurd rfl h
  | cons c cs => rfl

/-- entries the loop passes to the installer, and names it drops from the record, as functions of the record
at loop entry (valid when package names are unique) -/
def installs (cfg : Cfg) (ver : Ver V) (r : Rec) (t : Table) : List Entry :=
  t.filter (fun e => decidePkg cfg ver (rget r e.name) e = .install)

def popped (cfg : Cfg) (ver : Ver V) (r : Rec) (t : Table) (n : Str) : Bool :=
  t.any (fun e => e.name = n ∧ decidePkg cfg ver (rget r e.name) e = .pop)

def raises (cfg : Cfg) (ver : Ver V) (r : Rec) (t : Table) : Bool :=
  t.any (fun e => decidePkg cfg ver (rget r e.name) e = .raise)

theorem raises_cons (cfg : Cfg) (ver : Ver V) (r : Rec) (e : Entry) (es : Table) :
    raises cfg ver r (e :: es) = (decide (decidePkg cfg ver (rget r e.name) e = .raise) || raises cfg ver r es) := by
  simp [raises]

theorem popped_cons (cfg : Cfg) (ver : Ver V) (r : Rec) (e : Entry) (es : Table) (n : Str) :
    popped cfg ver r (e :: es) n = (decide (e.name = n ∧ decidePkg cfg ver (rget r e.name) e = .pop) || popped cfg ver r es n) := by
  simp [popped]

theorem installs_cons (cfg : Cfg) (ver : Ver V) (r : Rec) (e : Entry) (es : Table) :
    installs cfg ver r (e :: es) =
      if decidePkg cfg ver (rget r e.name) e = .install then e :: installs cfg ver r es else installs cfg ver r es := by
  simp only [installs, List.filter_cons, decide_eq_true_eq]

theorem loop_congr (cfg : Cfg) (ver : Ver V) (r r' : Rec) (es : Table) (h : ∀ x ∈ es, rget r' x.name = rget r x.name) :
    raises cfg ver r' es = raises cfg ver r es ∧ installs cfg ver r' es = installs cfg ver r es ∧
    ∀ n, popped cfg ver r' es n = popped cfg ver r es n := by
  induction es with
  | nil => simp [raises, installs, popped]
  | cons x xs ih =>
    have hx := h x (by simp)
    obtain ⟨i1, i2, i3⟩ := ih (fun y hy => h y (by simp [hy]))
    refine ⟨?_, ?_, ?_⟩
    · rw [raises_cons, raises_cons, hx, i1]
    · rw [installs_cons, installs_cons, hx, i2]
    · intro n; rw [popped_cons, popped_cons, hx, i3]

theorem decideLoop_spec (cfg : Cfg) (ver : Ver V) (t : Table) (hnd : (t.map (·.name)).Nodup) (st : LoopSt) :
    decideLoop cfg ver t st =
      if raises cfg ver st.recd t then none
      else some { recd := st.recd.filter (fun kv => !popped cfg ver st.recd t kv.1),
                  toInstall := st.toInstall ++ installs cfg ver st.recd t } := by
  induction t generalizing st with
  | nil =>
    cases st
    simp only [decideLoop, raises, popped, installs, List.any_nil, Bool.false_eq_true, if_false, Bool.not_false,
      List.filter_nil, List.append_nil, Option.some.injEq, LoopSt.mk.injEq, and_true]
    exact (List.filter_eq_self.2 (fun _ _ => rfl)).symm
  | cons e es ih =>
    simp only [List.map_cons, List.nodup_cons] at hnd
    obtain ⟨hne, hnd'⟩ := hnd
    have hne' : ∀ x ∈ es, x.name ≠ e.name := by
      intro x hx h; exact hne (List.mem_map.2 ⟨x, hx, h⟩)
    simp only [decideLoop, raises_cons, popped_cons, installs_cons]
    cases hd : decidePkg cfg ver (rget st.recd e.name) e with
    | raise => simp [applyDec]
    | install =>
      simp only [applyDec]
      rw [ih hnd']
      simp [List.append_assoc]
    | nothing =>
      simp only [applyDec]
      rw [ih hnd']
      simp
    | pop =>
      simp only [applyDec]
      rw [ih hnd']
      have hcongr : ∀ x ∈ es, rget (rpop st.recd e.name) x.name = rget st.recd x.name := by
        intro x hx; rw [rget_rpop]; simp [hne' x hx]
      obtain ⟨c1, c2, c3⟩ := loop_congr cfg ver st.recd (rpop st.recd e.name) es hcongr
      have hf : List.filter (fun kv => !popped cfg ver st.recd es kv.1) (rpop st.recd e.name)
          = List.filter (fun kv => !(decide (e.name = kv.1) || popped cfg ver st.recd es kv.1)) st.recd := by
        simp only [rpop, List.filter_filter]
        apply List.filter_congr
        intro kv _
        by_cases hk : e.name = kv.1
        · simp [hk]
        · have : ¬ kv.1 = e.name := fun h => hk h.symm
          simp [hk, this]
      simp only [c1, c2, c3, hf, reduceCtorEq, decide_false, Bool.false_or, if_false, and_true]

theorem decideLoop_nothing (cfg : Cfg) (ver : Ver V) (t : Table) (st : LoopSt)
    (h : ∀ e ∈ t, decidePkg cfg ver (rget st.recd e.name) e = .nothing) : decideLoop cfg ver t st = some st := by
  induction t with
  | nil => rfl
  | cons e es ih =>
    rw [decideLoop, h e List.mem_cons_self]
    exact ih (fun x hx => h x (List.mem_cons_of_mem _ hx))

theorem decideLoop_isSome (cfg : Cfg) (ver : Ver V) (hnr : ∀ recd e, decidePkg cfg ver recd e ≠ .raise) (t : Table)
    (st : LoopSt) : ∃ st', decideLoop cfg ver t st = some st' := by
  induction t generalizing st with
  | nil => exact ⟨st, rfl⟩
  | cons e es ih =>
    simp only [decideLoop]
    cases hd : decidePkg cfg ver (rget st.recd e.name) e with
    | raise => exact absurd hd (hnr _ _)
    | install => simp only [applyDec]; exact ih _
    | pop => simp only [applyDec]; exact ih _
    | nothing => simp only [applyDec]; exact ih _

theorem mem_installs (cfg : Cfg) (ver : Ver V) (r : Rec) (t : Table) (e : Entry) :
    e ∈ installs cfg ver r t ↔ e ∈ t ∧ decidePkg cfg ver (rget r e.name) e = .install := by
  simp [installs, List.mem_filter]

theorem not_raise_of_raises_false (cfg : Cfg) (ver : Ver V) (r : Rec) (t : Table) (h : raises cfg ver r t = false)
    (e : Entry) (he : e ∈ t) : decidePkg cfg ver (rget r e.name) e ≠ .raise := by
  intro hd
  have : raises cfg ver r t = true := by
    simp only [raises, List.any_eq_true, decide_eq_true_eq]
    exact ⟨e, he, hd⟩
  rw [h] at this; cases this

theorem popped_eq (cfg : Cfg) (ver : Ver V) (r : Rec) (t : Table) (hnd : (t.map (·.name)).Nodup) (m : Str) :
    popped cfg ver r t m = match find t m with
      | some e => decide (decidePkg cfg ver (rget r m) e = .pop)
      | none => false := by
  cases hf : find t m with
  | none =>
    simp only [popped, List.any_eq_false, decide_eq_true_eq, not_and]
    exact fun e he hn => absurd hn ((find_none_iff t m).1 hf e he)
  | some e =>
    obtain ⟨he, rfl⟩ := find_some_mem t m e hf
    rw [Bool.eq_iff_iff]
    simp only [popped, List.any_eq_true, decide_eq_true_eq]
    constructor
    · rintro ⟨x, hx, hxn, hd⟩
      cases eq_of_name_eq t hnd x e hx he hxn; exact hd
    · exact fun hd => ⟨e, he, rfl, hd⟩

theorem phase1_go (cfg : Cfg) (ver : Ver V) (allow : Bool) (t : Table) (hnd : (t.map (·.name)).Nodup) (r r1 : Rec)
    (ti : List Entry) (h : phase1 cfg ver allow t r = .go r1 ti) :
    (t = [] ∨ allow = true) ∧ raises cfg ver r t = false ∧
    r1 = r.filter (fun kv => !popped cfg ver r t kv.1) ∧ ti = installs cfg ver r t := by
  unfold phase1 at h
  rw [optinGuard_eq, Bool.true_and] at h
  by_cases hb : (!t.isEmpty && !allow) = true
  · simp [hb] at h
  · simp only [hb, Bool.false_eq_true, if_false] at h
    rw [decideLoop_spec cfg ver t hnd] at h
    by_cases hr : raises cfg ver r t = true
    · simp [hr] at h
    · simp only [hr, Bool.false_eq_true, if_false, List.nil_append] at h
      cases h
      refine ⟨?_, by simpa using hr, rfl, rfl⟩
      cases t with
      | nil => left; rfl
      | cons x xs => right; simpa using hb

/-- **the generated per-package decision is the hand-written nested one** – re-proved against `Gen.REQ_DECIDE_ROWS`
(read off requirements.py) on every run -/
theorem decidePkg_eq_ref (cfg : Cfg) (ver : Ver V) (recd : Option Str) (e : Entry) :
    decidePkg cfg ver recd e = decidePkgRef cfg ver recd e := by
  unfold decidePkg decidePkgRef
  cases truthy e.installed with
  | none => simp [Gen.REQ_DECIDE_ROWS, notInstalledAct, hostAct]
  | some inst =>
    rw [Gen.REQ_DECIDE_ROWS]
    dsimp only [hostRows, hostHolds, hostAct]
    by_cases hu : e.version = UNP
    · cases recd with
      | none => simp [hu]
      | some r => by_cases hr : r = inst <;> simp [hu, hr]
    · cases recd with
      | none => simp [hu]
      | some r =>
        simp only [hu, decide_false, Bool.false_and]
        cases differs cfg ver r inst with
        | none => rfl
        | some d1 =>
          cases d1 with
          | true => rfl
          | false =>
            simp only
            cases differs cfg ver e.version inst with
            | none => rfl
            | some d2 => cases d2 <;> rfl

theorem decidePkg_absent (cfg : Cfg) (ver : Ver V) (recd : Option Str) (e : Entry) (h : truthy e.installed = none) :
    decidePkg cfg ver recd e = .install := by
  rw [decidePkg_eq_ref, decidePkgRef, h]

theorem decidePkg_unrecorded (cfg : Cfg) (ver : Ver V) (e : Entry) (inst : Str) (h : truthy e.installed = some inst) :
    decidePkg cfg ver none e = .nothing := by
  rw [decidePkg_eq_ref, decidePkgRef, h]; exact ite_self _

theorem decidePkg_unpinned (cfg : Cfg) (ver : Ver V) (r : Str) (e : Entry) (inst : Str) (h : truthy e.installed = some inst)
    (hu : e.version = UNP) : decidePkg cfg ver (some r) e = if r ≠ inst then .pop else .nothing := by
  rw [decidePkg_eq_ref, decidePkgRef, h]; exact if_pos hu

theorem decidePkg_pinned (cfg : Cfg) (ver : Ver V) (r : Str) (e : Entry) (inst : Str) (h : truthy e.installed = some inst)
    (hu : e.version ≠ UNP) :
    decidePkg cfg ver (some r) e = match differs cfg ver r inst with
      | none => .raise
      | some true => .pop
      | some false => match differs cfg ver e.version inst with
        | none => .raise
        | some true => .install
        | some false => .nothing := by
  rw [decidePkg_eq_ref, decidePkgRef, h]; exact if_neg hu

theorem sameV_iff (ver : Ver V) (a b : Str) : sameV ver a b = true ↔ SameV ver a b := by
  simp only [sameV, SameV, Bool.or_eq_true, beq_iff_eq]
  refine or_congr Iff.rfl ?_
  cases ver.parse a with
  | none => simp
  | some x => cases ver.parse b <;> simp

/-- when the comparison does not raise it decides `SameV` (for the direct `Version(a) != Version(b)` this needs
reflexivity of `<=`: equal texts are equal versions) -/
theorem differs_some (cfg : Cfg) (ver : Ver V) (ok : VerOk ver) (a b : Str) (d : Bool) (h : differs cfg ver a b = some d) :
    d = true ↔ ¬ SameV ver a b := by
  unfold differs at h
  by_cases ht : cfg.tolerantCmp = true
  · simp only [ht, if_true, Option.some.injEq] at h
    rw [← h, ← sameV_iff]; simp
  · simp only [ht, Bool.false_eq_true, if_false] at h
    cases ha : ver.parse a with
    | none => simp [ha] at h
    | some x =>
      cases hb : ver.parse b with
      | none => simp [ha, hb] at h
      | some y =>
        simp only [ha, hb, Option.some.injEq] at h
        rw [← h]
        unfold SameV
        simp only [ha, hb, Option.some.injEq, Bool.not_eq_true', not_or, not_exists, not_and]
        constructor
        · intro hv
          refine ⟨?_, ?_⟩
          · intro e; subst e
            rw [ha] at hb; cases hb
            simp [veq, ok.refl] at hv
          · intro x' y' hx hy; subst hx; subst hy; simpa using hv
        · intro hv
          simpa using hv.2 x y rfl rfl

theorem decidePkg_ne_raise (cfg : Cfg) (ver : Ver V) (ht : cfg.tolerantCmp = true) (recd : Option Str) (e : Entry) :
    decidePkg cfg ver recd e ≠ .raise := by
  cases hi : truthy e.installed with
  | none => rw [decidePkg_absent cfg ver recd e hi]; decide
  | some inst =>
    cases recd with
    | none => rw [decidePkg_unrecorded cfg ver e inst hi]; decide
    | some r =>
      by_cases hu : e.version = UNP
      · rw [decidePkg_unpinned cfg ver r e inst hi hu]; split <;> decide
      · rw [decidePkg_pinned cfg ver r e inst hi hu]
        simp only [differs, ht, if_true]
        cases sameV ver r inst <;> cases sameV ver e.version inst <;> decide

theorem shouldInstall_recorded (ver : Ver V) (r : Str) (e : Entry) (inst : Str) (hi : truthy e.installed = some inst) :
    ShouldInstall ver (some r) e ↔ e.version ≠ UNP ∧ SameV ver r inst ∧ ¬ SameV ver e.version inst := by
  rw [ShouldInstall, hi]
  constructor
  · rintro (h | ⟨_, _, h1, h2, h⟩)
    · cases h
    · cases h1; cases h2; exact h
  · exact fun h => Or.inr ⟨inst, r, rfl, rfl, h⟩

theorem externallyChanged_recorded (ver : Ver V) (r : Str) (e : Entry) (inst : Str) (hi : truthy e.installed = some inst) :
    ExternallyChanged ver (some r) e ↔ (e.version = UNP ∧ r ≠ inst) ∨ (e.version ≠ UNP ∧ ¬ SameV ver r inst) := by
  rw [ExternallyChanged, hi]
  constructor
  · rintro ⟨_, _, h1, h2, h⟩; cases h1; cases h2; exact h
  · exact fun h => ⟨inst, r, rfl, rfl, h⟩

theorem not_shouldInstall_unrecorded (ver : Ver V) (e : Entry) (inst : Str) (hi : truthy e.installed = some inst) :
    ¬ ShouldInstall ver none e := by
  rintro (h | ⟨_, _, _, h, _⟩)
  · rw [hi] at h; cases h
  · cases h

theorem decidePkg_iff (cfg : Cfg) (ver : Ver V) (ok : VerOk ver) (recd : Option Str) (e : Entry)
    (hnr : decidePkg cfg ver recd e ≠ .raise) :
    (decidePkg cfg ver recd e = .install ↔ ShouldInstall ver recd e) ∧
    (decidePkg cfg ver recd e = .pop ↔ ExternallyChanged ver recd e) := by
  cases hi : truthy e.installed with
  | none =>
    rw [decidePkg_absent cfg ver recd e hi]
    exact ⟨iff_of_true rfl (Or.inl hi), iff_of_false (by decide) (fun ⟨_, _, h, _⟩ => by rw [hi] at h; cases h)⟩
  | some inst =>
    cases recd with
    | none =>
      rw [decidePkg_unrecorded cfg ver e inst hi]
      exact ⟨iff_of_false (by decide) (not_shouldInstall_unrecorded ver e inst hi),
        iff_of_false (by decide) (fun ⟨_, _, _, h, _⟩ => by cases h)⟩
    | some r =>
      rw [shouldInstall_recorded ver r e inst hi, externallyChanged_recorded ver r e inst hi]
      by_cases hu : e.version = UNP
      · rw [decidePkg_unpinned cfg ver r e inst hi hu]
        by_cases hr : r = inst <;> simp [hr, hu]
      · rw [decidePkg_pinned cfg ver r e inst hi hu] at hnr ⊢
        cases hd1 : differs cfg ver r inst with
        | none => rw [hd1] at hnr; exact absurd rfl hnr
        | some d1 =>
          have e1 := differs_some cfg ver ok r inst d1 hd1
          cases d1 with
          | true => simp [hu, e1.1 rfl]
          | false =>
            have hs : SameV ver r inst := by simpa using e1
            rw [hd1] at hnr
            cases hd2 : differs cfg ver e.version inst with
            | none => rw [hd2] at hnr; exact absurd rfl hnr
            | some d2 =>
              have e2 := differs_some cfg ver ok e.version inst d2 hd2
              cases d2 with
              | true => simp [hu, hs, e2.1 rfl]
              | false =>
                have hs2 : SameV ver e.version inst := by simpa using e2
                simp [hu, hs, hs2]

theorem nodup_recUpdate (r : Rec) (es : List Entry) (h : (keys r).Nodup) : (keys (recUpdate r es)).Nodup :=
  List.foldlRecOn (motive := fun r => (keys r).Nodup) es _ h (fun r hr e _ => nodup_rset r e.name e.version hr)

theorem rget_recUpdate (r : Rec) (es : List Entry) (hnd : (es.map (·.name)).Nodup) (m : Str) :
    rget (recUpdate r es) m = match find es m with
      | some e => some e.version
      | none => rget r m := by
  induction es generalizing r with
  | nil => rfl
  | cons e es ih =>
    simp only [List.map_cons, List.nodup_cons] at hnd
    simp only [recUpdate, List.foldl_cons] at ih ⊢
    rw [ih _ hnd.2]
    simp only [find]
    by_cases he : e.name = m
    · subst he
      have : find es e.name = none := (find_none_iff es e.name).2 (fun x hx hn => hnd.1 (List.mem_map.2 ⟨x, hx, hn⟩))
      simp [this, rget_rset]
    · simp only [he, if_false, rget_rset]

theorem filterMap_resolveOne (site' : Str → Option Str) (r : Rec) (h : ∀ kv ∈ r, kv.2 ≠ UNP) :
    r.filterMap (resolveOne site') = r := by
  induction r with
  | nil => rfl
  | cons kv rs ih =>
    rw [List.filterMap_cons, show resolveOne site' kv = some kv from if_pos (h kv List.mem_cons_self),
      ih (fun x hx => h x (List.mem_cons_of_mem _ hx))]

/-- the `any(… == UNPINNED_VERSION)` test that guards the call of `update_unpinned_versions` only saves work: without a
sentinel value every entry resolves to itself -/
theorem resolveUnpinned_eq (site' : Str → Option Str) (r : Rec) :
    resolveUnpinned site' r = r.filterMap (resolveOne site') := by
  unfold resolveUnpinned
  split
  · rfl
  · next hany =>
    exact (filterMap_resolveOne site' r (fun kv hkv e => hany (List.any_eq_true.2 ⟨kv, hkv, decide_eq_true e⟩))).symm

theorem resolveOne_some (site' : Str → Option Str) (kv kv' : Str × Str) (h : resolveOne site' kv = some kv') :
    kv'.1 = kv.1 ∧ (kv.2 ≠ UNP ∧ kv'.2 = kv.2 ∨ kv.2 = UNP ∧ truthy (site' kv.1) = some kv'.2) := by
  simp only [resolveOne] at h
  by_cases hv : kv.2 ≠ UNP
  · rw [if_pos hv] at h; cases h; exact ⟨rfl, Or.inl ⟨hv, rfl⟩⟩
  · rw [if_neg hv] at h
    cases ht : truthy (site' kv.1) with
    | none => simp [ht] at h
    | some i => simp only [ht, Option.some.injEq] at h; subst h; exact ⟨rfl, Or.inr ⟨Decidable.not_not.1 hv, rfl⟩⟩

theorem rget_resolve (site' : Str → Option Str) (r : Rec) (hnd : (keys r).Nodup) (m : Str) :
    rget (resolveUnpinned site' r) m = match rget r m with
      | some v => if v = UNP then truthy (site' m) else some v
      | none => none := by
  rw [resolveUnpinned_eq, rget_filterMap r (resolveOne site') (fun kv kv' h => (resolveOne_some site' kv kv' h).1) hnd m]
  cases rget r m with
  | none => rfl
  | some v =>
    simp only [resolveOne]
    by_cases hv : v = UNP
    · simp only [hv, ne_eq, not_true_eq_false, if_false, if_true]
      cases truthy (site' m) <;> rfl
    · simp [hv]

theorem resolve_noUnp (site' : Str → Option Str) (hs : ∀ n, site' n ≠ some UNP) (R : Rec) :
    ∀ kv ∈ resolveUnpinned site' R, kv.2 ≠ UNP := by
  intro kv hkv
  rw [resolveUnpinned_eq, List.mem_filterMap] at hkv
  obtain ⟨kv0, _, h0⟩ := hkv
  rcases (resolveOne_some site' kv0 kv h0).2 with ⟨hv, e⟩ | ⟨_, ht⟩
  · rw [e]; exact hv
  · intro e
    exact hs kv0.1 (by rw [(truthy_some _ _ ht).1, e])

theorem resolve_id (site' : Str → Option Str) (R : Rec) (h : ∀ kv ∈ R, kv.2 ≠ UNP) : resolveUnpinned site' R = R := by
  rw [resolveUnpinned_eq]; exact filterMap_resolveOne site' R h

/-- the record entry of package `m` after the decision loop and `update`, before unpinned versions are resolved -/
theorem rget_recUpdate_phase1 (cfg : Cfg) (ver : Ver V) (allow : Bool) (t : Table) (hnd : (t.map (·.name)).Nodup) (r r1 : Rec)
    (ti : List Entry) (h : phase1 cfg ver allow t r = .go r1 ti) (m : Str) :
    rget (recUpdate r1 ti) m = recordRule cfg ver t r m := by
  obtain ⟨_, _, h1, h2⟩ := phase1_go cfg ver allow t hnd r r1 ti h
  subst h1 h2
  rw [installs, rget_recUpdate _ _ (List.Pairwise.sublist (List.Sublist.map _ List.filter_sublist) hnd), find_filter t hnd]
  rw [rget_filter_key r (fun k => !popped cfg ver r t k), popped_eq cfg ver r t hnd]
  unfold recordRule
  cases hf : find t m with
  | none => simp
  | some e =>
    have hn := (find_some_mem t m e hf).2
    subst hn
    cases hd : decidePkg cfg ver (rget r e.name) e <;> simp [Option.filter, hd]

theorem rget_phase2 (cfg : Cfg) (ver : Ver V) (allow : Bool) (t : Table) (hnd : (t.map (·.name)).Nodup) (r r1 : Rec)
    (ti : List Entry) (h : phase1 cfg ver allow t r = .go r1 ti) (hk : (keys r).Nodup) (site' : Str → Option Str) (m : Str) :
    rget (phase2 site' r1 ti) m = resolveRule site' m (recordRule cfg ver t r m) := by
  have hk1 : (keys (recUpdate r1 ti)).Nodup := by
    rw [(phase1_go cfg ver allow t hnd r r1 ti h).2.2.1]
    exact nodup_recUpdate _ _ (List.Pairwise.sublist (List.Sublist.map _ List.filter_sublist) hk)
  unfold phase2
  rw [rget_resolve site' _ hk1, rget_recUpdate_phase1 cfg ver allow t hnd r r1 ti h]
  rfl

def TableOk (site : Str → Option Str) (t : Table) : Prop :=
  (t.map (·.name)).Nodup ∧ ∀ e ∈ t, e.installed = site e.name ∧ e.name ≠ []

theorem mem_upsert (t : Table) (e y : Entry) (h : y ∈ upsert t e) : y ∈ t ∨ y = e := by
  induction t with
  | nil => simp [upsert] at h; exact Or.inr h
  | cons x xs ih =>
    simp only [upsert] at h
    by_cases hx : x.name = e.name
    · simp only [hx, if_true, List.mem_cons] at h
      rcases h with h | h
      · exact Or.inr h
      · exact Or.inl (by simp [h])
    · simp only [hx, if_false, List.mem_cons] at h
      rcases h with h | h
      · exact Or.inl (by simp [h])
      · rcases ih h with h | h
        · exact Or.inl (by simp [h])
        · exact Or.inr h

theorem tableOk_upsert (site : Str → Option Str) (t : Table) (e : Entry) (h : TableOk site t)
    (he : e.installed = site e.name ∧ e.name ≠ []) : TableOk site (upsert t e) := by
  induction t with
  | nil => exact ⟨by simp [upsert], by intro y hy; simp [upsert] at hy; subst hy; exact he⟩
  | cons x xs ih =>
    obtain ⟨hnd, hall⟩ := h
    simp only [List.map_cons, List.nodup_cons] at hnd
    have hxs : TableOk site xs := ⟨hnd.2, fun y hy => hall y (by simp [hy])⟩
    simp only [upsert]
    by_cases hx : x.name = e.name
    · simp only [hx, if_true]
      refine ⟨?_, ?_⟩
      · simp only [List.map_cons, List.nodup_cons]; rw [← hx]; exact hnd
      · intro y hy
        rcases List.mem_cons.1 hy with rfl | hy
        · exact he
        · exact hall y (by simp [hy])
    · simp only [hx, if_false]
      obtain ⟨ind, iall⟩ := ih hxs
      refine ⟨?_, ?_⟩
      · simp only [List.map_cons, List.nodup_cons]
        refine ⟨?_, ind⟩
        intro hmem
        obtain ⟨y, hy, hyn⟩ := List.mem_map.1 hmem
        rcases mem_upsert xs e y hy with h1 | h1
        · exact hnd.1 (List.mem_map.2 ⟨y, h1, hyn⟩)
        · subst h1; exact hx hyn.symm
      · intro y hy
        rcases List.mem_cons.1 hy with rfl | hy
        · exact hall y (by simp)
        · exact iall y hy

theorem tableOk_modify (site : Str → Option Str) (t : Table) (n : Str) (f : Entry → Entry)
    (hf : ∀ e, (f e).name = e.name ∧ (f e).installed = e.installed) (h : TableOk site t) :
    TableOk site (modify t n f) := by
  obtain ⟨hnd, hall⟩ := h
  have hnames : (modify t n f).map (·.name) = t.map (·.name) := by
    simp only [modify, List.map_map]
    apply List.map_congr_left
    intro x _
    by_cases hx : x.name = n <;> simp [hx, (hf x).1]
  refine ⟨by rw [hnames]; exact hnd, ?_⟩
  intro y hy
  simp only [modify, List.mem_map] at hy
  obtain ⟨x, hx, rfl⟩ := hy
  by_cases hxn : x.name = n
  · simp only [hxn, if_true]
    rw [(hf x).1, (hf x).2]; exact hall x hx
  · simp only [hxn, if_false]; exact hall x hx

theorem tableOk_merge1 (ver : Ver V) (site : Str → Option Str) (t : Table) (src : Nat) (name new : Str)
    (h : TableOk site t) : TableOk site (merge1 ver site t src name new) := by
  unfold merge1
  split
  · simp only [getInstalled]
    by_cases hn : name = []
    · simp [hn, h]
    · simp only [hn, if_false]
      exact tableOk_upsert site t _ h ⟨rfl, hn⟩
  · exact tableOk_modify site t name _ (fun e => ⟨rfl, rfl⟩) h
  · exact tableOk_modify site t name _ (fun e => ⟨rfl, rfl⟩) h
  · exact h

theorem tableOk_mergeAll (cfg : Cfg) (ver : Ver V) (site : Str → Option Str) (ls : List (Nat × Str)) :
    TableOk site (mergeAll cfg ver site ls) := by
  refine List.foldlRecOn (motive := TableOk site) ls _ ⟨by simp, by simp⟩ (fun t h l _ => ?_)
  unfold processLine
  split
  · exact h
  · exact tableOk_merge1 ver site t _ _ _ h

/-- the same table entry after the site changed: only the installed-version field is re-read -/
def refresh (s : Str → Option Str) (e : Entry) : Entry := { e with installed := s e.name }

theorem find_map_refresh (s : Str → Option Str) (t : Table) (m : Str) :
    find (t.map (refresh s)) m = (find t m).map (refresh s) := by
  rw [find_eq, find_eq, List.find?_map]; rfl

theorem versionOf_map_refresh (s : Str → Option Str) (t : Table) (m : Str) :
    versionOf (t.map (refresh s)) m = versionOf t m := by
  simp only [versionOf, find_map_refresh, Option.map_map]
  rfl

theorem upsert_map_refresh (s : Str → Option Str) (t : Table) (e : Entry) :
    (upsert t e).map (refresh s) = upsert (t.map (refresh s)) (refresh s e) := by
  induction t with
  | nil => rfl
  | cons x xs ih =>
    simp only [upsert, List.map_cons]
    have : (refresh s x).name = x.name := rfl
    have : (refresh s e).name = e.name := rfl
    by_cases hx : x.name = e.name
    · simp [hx, refresh]
    · simp only [hx, if_false, List.map_cons, ih, refresh]

theorem modify_map_refresh (s : Str → Option Str) (t : Table) (n : Str) (f : Entry → Entry)
    (hf : ∀ e, refresh s (f e) = f (refresh s e)) :
    (modify t n f).map (refresh s) = modify (t.map (refresh s)) n f := by
  simp only [modify, List.map_map]
  apply List.map_congr_left
  intro x _
  simp only [Function.comp]
  have : (refresh s x).name = x.name := rfl
  by_cases hx : x.name = n <;> simp [hx, this, hf]

theorem merge1_refresh (ver : Ver V) (site s : Str → Option Str) (t : Table) (src : Nat) (name new : Str) :
    (merge1 ver site t src name new).map (refresh s) = merge1 ver s (t.map (refresh s)) src name new := by
  unfold merge1
  rw [versionOf_map_refresh]
  cases branch ver (versionOf t name) new with
  | record =>
    simp only [getInstalled]
    by_cases hn : name = []
    · simp [hn]
    · simp only [hn, if_false, upsert_map_refresh]; rfl
  | keep => rfl
  | addSource => exact modify_map_refresh s t name _ (fun e => rfl)
  | bump => exact modify_map_refresh s t name _ (fun e => rfl)

theorem mergeAll_refresh (cfg : Cfg) (ver : Ver V) (site s : Str → Option Str) (ls : List (Nat × Str)) :
    mergeAll cfg ver s ls = (mergeAll cfg ver site ls).map (refresh s) := by
  refine List.foldl_hom (List.map (refresh s)) (g₁ := processLine cfg ver site) (init := []) (fun t l => ?_)
  unfold processLine
  split
  · rfl
  · exact (merge1_refresh ver site s t _ _ _).symm
theorem second_run_nothing (cfg : Cfg) (ver : Ver V) (site site' : Str → Option Str) (t : Table) (ht : TableOk site t)
    (r : Rec) (hk : (keys r).Nodup) (hnu : ∀ kv ∈ r, kv.2 ≠ UNP) (allow : Bool) (r1 : Rec) (ti : List Entry)
    (h : phase1 cfg ver allow t r = .go r1 ti) (hio : InstallOk ver site site' ti) (e : Entry) (he : e ∈ t) :
    decidePkg cfg ver (rget (phase2 site' r1 ti) e.name) (refresh site' e) = .nothing := by
  obtain ⟨hnd, hall⟩ := ht
  rw [rget_phase2 cfg ver allow t hnd r r1 ti h hk]
  obtain ⟨_, hraise, _, hti⟩ := phase1_go cfg ver allow t hnd r r1 ti h
  have hfind : find t e.name = some e := find_of_mem_nodup t hnd e he
  have hnotin : decidePkg cfg ver (rget r e.name) e ≠ .install → refresh site' e = e := by
    intro hd
    have : site' e.name = e.installed := by
      rw [(hall e he).1]
      apply hio.others
      intro x hx hxn
      rw [hti, mem_installs] at hx
      cases eq_of_name_eq t hnd x e hx.1 he hxn
      exact hd hx.2
    rw [refresh, this]
  simp only [recordRule, hfind]
  cases hd : decidePkg cfg ver (rget r e.name) e with
  | raise => exact absurd hd (not_raise_of_raises_false cfg ver r t hraise e he)
  | install =>
    have hmem : e ∈ ti := by rw [hti, mem_installs]; exact ⟨he, hd⟩
    simp only [resolveRule]
    by_cases hu : e.version = UNP
    · obtain ⟨i, hi, hine⟩ := hio.unpinned e hmem hu
      have hti : truthy (refresh site' e).installed = some i := by rw [refresh, hi]; exact truthy_of_ne i hine
      rw [if_pos hu, hi, truthy_of_ne i hine, decidePkg_unpinned cfg ver i _ i hti hu]
      exact if_neg (fun h => h rfl)
    · obtain ⟨i, w, b, hi, hine, hw, hb, hwb⟩ := hio.pinned e hmem hu
      have hti : truthy (refresh site' e).installed = some i := by rw [refresh, hi]; exact truthy_of_ne i hine
      have hd0 : differs cfg ver e.version i = some false := by
        unfold differs
        cases cfg.tolerantCmp <;> simp [sameV, hw, hb, hwb]
      rw [if_neg hu, decidePkg_pinned cfg ver e.version _ i hti hu]
      simp only [refresh, hd0]
  | pop =>
    rw [hnotin (by rw [hd]; decide)]
    cases hti' : truthy e.installed with
    | none => rw [decidePkg_absent cfg ver _ e hti'] at hd; cases hd
    | some inst => exact decidePkg_unrecorded cfg ver e inst hti'
  | nothing =>
    rw [hnotin (by rw [hd]; decide)]
    cases hr : rget r e.name with
    | none => simp only [resolveRule]; rw [← hr]; exact hd
    | some v =>
      have : v ≠ UNP := hnu (e.name, v) (rget_mem r e.name v hr)
      simp only [resolveRule, this, if_false]
      rw [← hr]; exact hd
theorem second_run (cfg : Cfg) (ver : Ver V) (site site' : Str → Option Str) (t : Table) (ht : TableOk site t)
    (r : Rec) (hk : (keys r).Nodup) (hnu : ∀ kv ∈ r, kv.2 ≠ UNP) (allow : Bool) (r1 : Rec) (ti : List Entry)
    (h : phase1 cfg ver allow t r = .go r1 ti) (hio : InstallOk ver site site' ti) (hs : ∀ n, site' n ≠ some UNP) :
    phase1 cfg ver allow (t.map (refresh site')) (phase2 site' r1 ti) = .go (phase2 site' r1 ti) [] ∧
    phase2 site' (phase2 site' r1 ti) [] = phase2 site' r1 ti := by
  have hdec : ∀ x ∈ t.map (refresh site'), decidePkg cfg ver (rget (phase2 site' r1 ti) x.name) x = .nothing := by
    intro x hx
    obtain ⟨e, he, rfl⟩ := List.mem_map.1 hx
    exact second_run_nothing cfg ver site site' t ht r hk hnu allow r1 ti h hio e he
  obtain ⟨hallow, _, _, _⟩ := phase1_go cfg ver allow t ht.1 r r1 ti h
  constructor
  · unfold phase1
    have hb : (!(t.map (refresh site')).isEmpty && !allow) = false := by
      rcases hallow with h0 | h0
      · subst h0; rfl
      · subst h0; simp
    rw [optinGuard_eq, Bool.true_and]
    simp only [hb, Bool.false_eq_true, if_false]
    rw [decideLoop_nothing cfg ver _ { recd := phase2 site' r1 ti, toInstall := [] } hdec]
  · unfold phase2
    simp only [recUpdate, List.foldl_nil]
    exact resolve_id site' _ (resolve_noUnp site' hs _)

theorem leNum_refl (a : List Nat) : leNum a a = true := by
  induction a with
  | nil => rfl
  | cons x xs ih => simp [leNum, ih]

theorem leNum_total (a b : List Nat) : leNum a b = true ∨ leNum b a = true := by
  induction a generalizing b with
  | nil => left; rfl
  | cons x xs ih =>
    cases b with
    | nil => right; rfl
    | cons y ys =>
      simp only [leNum, Bool.or_eq_true, decide_eq_true_eq, Bool.and_eq_true, beq_iff_eq]
      rcases Nat.lt_trichotomy x y with h | h | h
      · left; left; exact h
      · subst h
        rcases ih ys with h | h
        · left; right; exact ⟨rfl, h⟩
        · right; right; exact ⟨rfl, h⟩
      · right; left; exact h

theorem leNum_trans (a b c : List Nat) (h1 : leNum a b = true) (h2 : leNum b c = true) : leNum a c = true := by
  induction a generalizing b c with
  | nil => rfl
  | cons x xs ih =>
    cases b with
    | nil => simp [leNum] at h1
    | cons y ys =>
      cases c with
      | nil => simp [leNum] at h2
      | cons z zs =>
        simp only [leNum, Bool.or_eq_true, decide_eq_true_eq, Bool.and_eq_true, beq_iff_eq] at h1 h2 ⊢
        rcases h1 with h1 | ⟨rfl, h1⟩
        · rcases h2 with h2 | ⟨rfl, _⟩
          · left; omega
          · left; exact h1
        · rcases h2 with h2 | ⟨rfl, h2⟩
          · left; exact h2
          · right; exact ⟨rfl, ih ys zs h1 h2⟩

theorem numVer_ok : VerOk numVer where
  refl := leNum_refl
  trans := leNum_trans
  total := leNum_total
  unp := by rw [UNP_eq]; decide
  empty := by decide

/-! ## evaluating concrete runs

`"…".toList` is a UTF-8 decode, slow to evaluate, and `numVer.parse` decodes its keyword tables on every version that
starts with a digit.  The witnesses in `Props` therefore run on `Cfg.round4` for `current` and on `memoVer numVer parsed`
for `numVer`: the versions they mention are parsed once, here.  A literal of the statement is read as its character
list by `rw [String.toList_ofList]` (the literal unifies with `String.ofList _`; nothing is decoded).  `UNP` is such a
literal inside `branch` and `newVersion`: `delta mergeAll processLine merge1` brings the two into the goal, where
`branch_eq_with`, `newVersion_eq` and `UNP_eq` spell the sentinel out before the run is evaluated. -/

theorem current_eq : current = Cfg.round4 := by
  simp only [current, Gen.REQ_SPEC_PATS, List.map, String.reduceToList]; rfl

/-- `branchRef` with the sentinel as a parameter -/
def branchWith (unp : Str) (ver : Ver V) (cur : Option Str) (new : Str) : Branch :=
  match cur with
  | none => .record
  | some c =>
    if c = [] then .record
    else if new = unp ∧ c ≠ unp then .keep
    else if new ≠ unp ∧ c = unp then .record
    else if new = unp ∧ c = unp then .addSource
    else match ver.parse c, ver.parse new with
      | some a, some b =>
        if ver.le a b && ver.le b a then .addSource
        else if ver.le a b then .bump
        else .keep
      | _, _ => .keep

theorem branch_eq_with (ver : Ver V) (cur : Option Str) (new : Str) : branch ver cur new = branchWith UNP ver cur new :=
  branch_eq_ref ver cur new

theorem newVersion_eq (pin : Option Str) : newVersion pin = pin.getD UNP := by
  cases pin with
  | none => exact Option.getD_none.symm
  | some v => exact Option.getD_some.symm

/-- `ver`, except that the strings of `tbl` are looked up instead of parsed -/
def memoVer (ver : Ver V) (tbl : List (Str × Option V)) : Ver V :=
  { parse := fun s => (tbl.lookup s).getD (ver.parse s), le := ver.le }

theorem memoVer_eq (ver : Ver V) (tbl : List (Str × Option V)) (h : ∀ x ∈ tbl, ver.parse x.1 = x.2) :
    memoVer ver tbl = ver := by
  have hp : ∀ s, (tbl.lookup s).getD (ver.parse s) = ver.parse s := by
    intro s
    induction tbl with
    | nil => rfl
    | cons x xs ih =>
      obtain ⟨k, v⟩ := x
      rw [List.lookup_cons]
      cases hk : s == k with
      | true => rw [eq_of_beq hk]; exact (h (k, v) (by simp)).symm
      | false => exact ih (fun y hy => h y (by simp [hy]))
  cases ver
  simp only [memoVer, hp]

/-- the versions that occur in the witnesses, with what `numVer` makes of them -/
def parsed : List (Str × Option (List Nat)) :=
  [(['1', '.', '0'], some [0, 6, 4, 0, 0, 0, 1, 0]), (['2', '.', '0'], some [0, 7, 4, 0, 0, 0, 1, 0]),
   (['3', '.', '0'], some [0, 8, 4, 0, 0, 0, 1, 0]), (['1', '!', '2', '.', '0'], some [1, 7, 4, 0, 0, 0, 1, 0]),
   (['1', '.', '9'], some [0, 6, 14, 4, 0, 0, 0, 1, 0]), (['1', '.', '1', '0'], some [0, 6, 15, 4, 0, 0, 0, 1, 0]),
   (['1', '.', '0', '.', '0'], some [0, 6, 4, 0, 0, 0, 1, 0]), (['2', '0', '0', '4', 'd'], none)]

theorem numVer_memo : memoVer numVer parsed = numVer := memoVer_eq _ _ (by decide)

end PsModel.C20
