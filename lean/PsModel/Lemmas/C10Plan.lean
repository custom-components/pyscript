import PsModel.Lemmas.C10
import PsModel.Lemmas.C10Closure
/-! the reload planner: the three phases as set computations; the default plan against the discard rule `Spec.Disc`;
the spec column; `reload(name)` -/
namespace PsModel.C10
open PsModel.C10.Spec

@[simp] theorem setF_name (e : Entry) (b : Bool) : (e.setF b).name = e.name := rfl
@[simp] theorem setF_path (e : Entry) (b : Bool) : (e.setF b).path = e.path := rfl
@[simp] theorem setF_autoload (e : Entry) (b : Bool) : (e.setF b).autoload = e.autoload := rfl
@[simp] theorem setF_src (e : Entry) (b : Bool) : (e.setF b).src = e.src := rfl
@[simp] theorem setF_mtime (e : Entry) (b : Bool) : (e.setF b).mtime = e.mtime := rfl
@[simp] theorem setF_appCfg (e : Entry) (b : Bool) : (e.setF b).appCfg = e.appCfg := rfl
@[simp] theorem setF_relImport (e : Entry) (b : Bool) : (e.setF b).relImport = e.relImport := rfl
@[simp] theorem setF_force (e : Entry) (b : Bool) : (e.setF b).force = b := rfl
@[simp] theorem setF_setF (e : Entry) (a b : Bool) : (e.setF a).setF b = e.setF b := rfl
@[simp] theorem setF_self (e : Entry) : e.setF e.force = e := rfl

theorem setF_inj {e : Entry} {a b : Bool} : e.setF a = e.setF b ↔ a = b := by
  constructor
  · intro h; have := congrArg Entry.force h; simpa using this
  · rintro rfl; rfl

theorem upd_eq (P b : Entry → Bool) (e : Entry) : upd P b e = e.setF (if P e then b e else e.force) := by
  unfold upd; split <;> simp

@[simp] theorem upd_name (P b : Entry → Bool) (e : Entry) : (upd P b e).name = e.name := by rw [upd_eq]; rfl
@[simp] theorem upd_path (P b : Entry → Bool) (e : Entry) : (upd P b e).path = e.path := by rw [upd_eq]; rfl
@[simp] theorem upd_autoload (P b : Entry → Bool) (e : Entry) : (upd P b e).autoload = e.autoload := by
  rw [upd_eq]; rfl
theorem upd_force (P b : Entry → Bool) (e : Entry) : (upd P b e).force = if P e then b e else e.force := by
  rw [upd_eq]; rfl

@[simp] theorem isRootFile_setF (r : Name) (e : Entry) (a : Bool) : isRootFile r (e.setF a) = isRootFile r e := rfl
@[simp] theorem isRootFile_upd (r : Name) (P b : Entry → Bool) (e : Entry) :
    isRootFile r (upd P b e) = isRootFile r e := by rw [upd_eq]; rfl

theorem mem_setForce {es : List Entry} {P b : Entry → Bool} {e' : Entry} :
    e' ∈ setForce es P b ↔ ∃ e ∈ es, upd P b e = e' := List.mem_map

theorem findEntry_setForce (es : List Entry) (P b : Entry → Bool) (n : Name) :
    findEntry (setForce es P b) n = (findEntry es n).map (upd P b) := by
  induction es with
  | nil => rfl
  | cons x xs ih =>
    simp only [findEntry, setForce, List.map_cons, List.find?_cons, upd_name] at ih ⊢
    by_cases hx : (x.name == n) = true
    · simp [hx]
    · simp only [hx]; exact ih

theorem map_name_map {f : Entry → Entry} (hf : ∀ e, (f e).name = e.name) (es : List Entry) :
    (es.map f).map (·.name) = es.map (·.name) := by
  rw [List.map_map]; exact List.map_congr_left fun e _ => hf e

theorem map_name_setForce (es : List Entry) (P b : Entry → Bool) : (setForce es P b).map (·.name) = es.map (·.name) :=
  map_name_map (upd_name P b) es

namespace NamesNodup
theorem congr {es es' : List Entry} (hnd : NamesNodup es) (h : es'.map (·.name) = es.map (·.name)) :
    NamesNodup es' := by
  unfold NamesNodup; rw [h]; exact hnd
end NamesNodup

theorem hasName_congr {es es' : List Entry} (h : es'.map (·.name) = es.map (·.name)) (n : Name) :
    hasName es' n = hasName es n := by
  have key : ∀ l : List Entry, hasName l n = (l.map (·.name)).any (· == n) := fun l => by rw [List.any_map]; rfl
  rw [key, key, h]

theorem mem_filter_names {es : List Entry} {q : Name → Bool} {m : Name} :
    m ∈ (es.filter (fun x => q x.name)).map (·.name) ↔ hasName es m = true ∧ q m = true := by
  simp only [List.mem_map, List.mem_filter, hasName_iff]
  constructor
  · rintro ⟨x, ⟨hx, hq⟩, rfl⟩; exact ⟨⟨x, hx, rfl⟩, hq⟩
  · rintro ⟨⟨x, hx, rfl⟩, hq⟩; exact ⟨x, ⟨hx, hq⟩, rfl⟩

theorem setForce_false (es : List Entry) (b : Entry → Bool) : setForce es (fun _ => false) b = es :=
  List.map_id'' (fun _ => rfl) es

def Loaded (loaded : List Ctx) (n : Name) : Prop := ∃ c ∈ loaded, c.name = n

theorem findCtx_none_of_not_loaded {loaded : List Ctx} {n : Name} (h : ¬ Loaded loaded n) : findCtx loaded n = none :=
  findCtx_none.mpr (fun c hc hn => h ⟨c, hc, hn⟩)

theorem loaded_snoc {seen : List Ctx} {c : Ctx} {n : Name} : Loaded (seen ++ [c]) n ↔ Loaded seen n ∨ c.name = n := by
  simp only [Loaded, List.mem_append, List.mem_singleton, or_and_right, exists_or, exists_eq_left]

theorem root2_length_of_isUnder {pre : String} {n : Name} (h : isUnder pre n = true) : (root2 n).length = 2 := by
  unfold isUnder at h
  simp only [Bool.and_eq_true, decide_eq_true_eq] at h
  simp only [root2, List.length_take]
  omega

theorem isUnder_of_root2_eq {pre : String} {a b : Name} (h : root2 a = root2 b) (hb : isUnder pre b = true) :
    isUnder pre a = true := by
  have hlen := root2_length_of_isUnder hb
  rw [← h] at hlen
  have ha : 2 ≤ a.length := by
    simp only [root2, List.length_take] at hlen; omega
  have hhead : a.head? = b.head? := by
    have := congrArg List.head? h
    simpa [root2, List.head?_take] using this
  unfold isUnder at hb ⊢
  rw [hhead, decide_eq_true ha]
  exact (Bool.and_eq_true_iff.mp hb).2

theorem inPkg_of_root2_eq {a b : Name} (h : root2 a = root2 b) (hb : inPkg b = true) : inPkg a = true := by
  unfold inPkg at hb ⊢
  rcases Bool.or_eq_true_iff.mp hb with hb | hb
  · rw [isUnder_of_root2_eq h hb]; rfl
  · rw [isUnder_of_root2_eq h hb, Bool.or_true]

theorem underRoot_iff {r n : Name} (hr : r.length = 2) : underRoot r n = true ↔ root2 n = r := by
  unfold underRoot root2
  rw [List.isPrefixOf_iff_prefix]
  constructor
  · intro h
    obtain ⟨t, rfl⟩ := h
    simp [hr]
  · intro h
    rw [← h]
    exact List.take_prefix 2 n

theorem inPkg_false_iff (n : Name) : inPkg n = false ↔ (!(isUnder "apps" n) && !(isUnder "modules" n)) = true := by
  unfold inPkg
  cases isUnder "apps" n <;> cases isUnder "modules" n <;> simp

theorem mem_willReload {p : Plan} {r : Name} :
    r ∈ willReload p ↔ ∃ e ∈ p.ents, isUnder "modules" e.name = true ∧ (e.name ∈ p.del ∨ e.force = true) ∧ root2 e.name = r := by
  simp only [willReload, List.mem_map, List.mem_filter, Bool.and_eq_true, Bool.or_eq_true, List.contains_iff_mem, and_assoc]

def ForcedRoot (es : List Entry) (r : Name) : Prop :=
  ∃ e ∈ es, e.force = true ∧ inPkg e.name = true ∧ root2 e.name = r

def ImportsRootIn (loaded : List Ctx) (wr : List Name) (n : Name) : Prop := ∃ m, Reach loaded n m ∧ root2 m ∈ wr

theorem importsReloaded_iff (wr mods : List Name) :
    importsReloaded wr mods = true ↔ ∃ m ∈ mods, root2 m ∈ wr := by
  simp [importsReloaded]

theorem setForce_setForce_true (es : List Entry) (F : List Name) (n : Name) :
    setForce (setForce es (fun e => F.contains e.name) (fun _ => true)) (fun e => e.name == n) (fun _ => true) =
      setForce es (fun e => (F ++ [n]).contains e.name) (fun _ => true) := by
  simp only [setForce, List.map_map]
  apply List.map_congr_left
  intro x _
  simp only [Function.comp, upd_eq, setF_name, setF_setF, setF_force]
  rw [setF_inj, List.contains_append, List.contains_cons, List.contains_nil, Bool.or_false]
  cases F.contains x.name <;> simp

structure P2Inv (loaded : List Ctx) (wr : List Name) (p : Plan) (seen : List Ctx) (s : P2) : Prop where
  memo : MemoInv loaded [] { visited := [], tbl := s.tbl }
  frc : ∃ F : List Name, s.del = p.del ++ F ∧
    s.ents = setForce p.ents (fun e => F.contains e.name) (fun _ => true) ∧
    ∀ n, n ∈ F ↔ Loaded seen n ∧ ImportsRootIn loaded wr n

theorem phase2Step_inv {loaded : List Ctx} {rank : Name → Nat} (hacyc : Acyclic loaded rank) {fuel : Nat}
    {wr : List Name} {p : Plan} {seen : List Ctx} {s : P2} (h : P2Inv loaded wr p seen s) {c : Ctx}
    (hfuel : rank c.name < fuel) :
    P2Inv loaded wr p (seen ++ [c]) (phase2Step loaded fuel wr s c) := by
  -- the table after the (possibly skipped) root call holds the closure of `c`
  have key : ∃ tbl, (if memoHas s.tbl c.name then s.tbl
        else (importRecurse loaded fuel c.name { visited := [], tbl := s.tbl }).2.tbl) = tbl ∧
      MemoInv loaded [] { visited := [], tbl := tbl } ∧ ∀ x, x ∈ memoGet tbl c.name ↔ Reach loaded c.name x := by
    by_cases hh : memoHas s.tbl c.name = true
    · exact ⟨s.tbl, if_pos hh, h.memo, h.memo.fin c.name hh List.not_mem_nil⟩
    · have hcall := importRecurse_root hacyc hfuel h.memo
      exact ⟨_, if_neg hh, hcall.2.1, hcall.2.2⟩
  obtain ⟨tbl, htbl, hmemo, hreach⟩ := key
  obtain ⟨F, hdel, hents, hF⟩ := h.frc
  unfold phase2Step
  simp only [htbl]
  by_cases hi : importsReloaded wr (memoGet tbl c.name) = true
  · have himp : ImportsRootIn loaded wr c.name := by
      obtain ⟨m, hm, hw⟩ := (importsReloaded_iff _ _).mp hi
      exact ⟨m, (hreach m).mp hm, hw⟩
    simp only [hi, if_true]
    refine ⟨hmemo, F ++ [c.name], by rw [hdel, List.append_assoc], ?_, ?_⟩
    · rw [hents]; exact setForce_setForce_true _ _ _
    · intro n
      rw [List.mem_append, List.mem_singleton, hF n, loaded_snoc, or_and_right]
      exact or_congr_right ⟨fun h => ⟨h.symm, h ▸ himp⟩, fun h => h.1.symm⟩
  · have hnimp : ¬ ImportsRootIn loaded wr c.name := by
      rintro ⟨m, hm, hw⟩
      exact hi ((importsReloaded_iff _ _).mpr ⟨m, (hreach m).mpr hm, hw⟩)
    simp only [hi, Bool.false_eq_true, if_false]
    refine ⟨hmemo, F, hdel, hents, ?_⟩
    intro n
    rw [hF n, loaded_snoc, or_and_right]
    exact ⟨.inl, fun h => h.elim id fun ⟨e, hi'⟩ => absurd (e ▸ hi') hnimp⟩

def ReloadImporter (loaded : List Ctx) (p : Plan) (n : Name) : Prop := Loaded loaded n ∧ ImportsRootIn loaded (willReload p) n

theorem phase2_spec {loaded : List Ctx} {rank : Name → Nat} (hacyc : Acyclic loaded rank) {fuel : Nat}
    (hfuel : ∀ c ∈ loaded, rank c.name < fuel) (p : Plan) : ∃ F : List Name,
    (phase2 loaded fuel p).del = p.del ++ F ∧
    (phase2 loaded fuel p).ents = setForce p.ents (fun e => F.contains e.name) (fun _ => true) ∧
    ∀ n, n ∈ F ↔ ReloadImporter loaded p n := by
  unfold phase2
  by_cases hwr : (willReload p).isEmpty = true
  · simp only [hwr, if_true]
    refine ⟨[], (List.append_nil _).symm, (setForce_false _ _).symm, fun n => ⟨fun h => absurd h List.not_mem_nil, ?_⟩⟩
    rintro ⟨_, m, _, hm⟩
    rw [List.isEmpty_iff.mp hwr] at hm
    cases hm
  · simp only [hwr, Bool.false_eq_true, if_false]
    have hinv := foldl_seen (I := P2Inv loaded (willReload p) p) (s := { tbl := [], del := p.del, ents := p.ents })
      (fun _ _ h c hc => phase2Step_inv hacyc h (hfuel c hc))
      ⟨⟨fun _ h => absurd h Bool.false_ne_true, List.forall_mem_nil _⟩, [], (List.append_nil _).symm, (setForce_false _ _).symm,
        fun n => ⟨fun h => absurd h List.not_mem_nil, fun ⟨⟨_, h, _⟩, _⟩ => nomatch h⟩⟩
    exact hinv.frc

section
variable {loaded : List Ctx} {rank : Name → Nat} (hacyc : Acyclic loaded rank) {fuel : Nat}
  (hfuel : ∀ c ∈ loaded, rank c.name < fuel) (p : Plan)
include hacyc hfuel

theorem phase2_del (n : Name) : n ∈ (phase2 loaded fuel p).del ↔ n ∈ p.del ∨ ReloadImporter loaded p n := by
  obtain ⟨F, hd, _, hF⟩ := phase2_spec hacyc hfuel p
  rw [hd, List.mem_append, hF]

theorem phase2_names : (phase2 loaded fuel p).ents.map (·.name) = p.ents.map (·.name) := by
  obtain ⟨F, _, he, _⟩ := phase2_spec hacyc hfuel p
  rw [he]; exact map_name_setForce _ _ _

theorem phase2_forcedRoot (r : Name) : ForcedRoot (phase2 loaded fuel p).ents r ↔
    ∃ e ∈ p.ents, (e.force = true ∨ ReloadImporter loaded p e.name) ∧ inPkg e.name = true ∧ root2 e.name = r := by
  obtain ⟨F, _, he, hF⟩ := phase2_spec hacyc hfuel p
  have hforce : ∀ e, (upd (fun e => F.contains e.name) (fun _ => true) e).force = true ↔
      e.force = true ∨ ReloadImporter loaded p e.name := by
    intro e
    rw [upd_force, ← hF, ← List.contains_iff_mem]
    cases F.contains e.name <;> simp
  unfold ForcedRoot
  rw [he]
  constructor
  · rintro ⟨e', he', hf, hp, hr⟩
    obtain ⟨e, hee, rfl⟩ := mem_setForce.mp he'
    rw [upd_name] at hp hr
    exact ⟨e, hee, (hforce e).mp hf, hp, hr⟩
  · rintro ⟨e, hee, hor, hp, hr⟩
    exact ⟨_, mem_setForce.mpr ⟨e, hee, rfl⟩, (hforce e).mpr hor, by rwa [upd_name], by rwa [upd_name]⟩

end

theorem phase3Step_skip {s : P3} {n : Name}
    (h : ∀ e, findEntry s.ents n = some e → e.force = true → inPkg n = true → s.done.contains (root2 n) = true) :
    phase3Step s n = s := by
  unfold phase3Step
  cases he : findEntry s.ents n with
  | none => rfl
  | some e =>
    dsimp only
    by_cases hf : e.force = true
    · by_cases hp : inPkg n = true
      · rw [h e he hf hp, if_pos rfl, ite_self, ite_self]
      · rw [(inPkg_false_iff n).mp (Bool.eq_false_iff.mpr hp), if_pos rfl, ite_self]
    · rw [Bool.eq_false_iff.mpr hf]; rfl

theorem phase3Step_widen {s : P3} {n : Name} {e : Entry} (hf : findEntry s.ents n = some e) (h : e.force = true)
    (hp : inPkg n = true) (hd : s.done.contains (root2 n) = false) :
    phase3Step s n =
      { done := root2 n :: s.done,
        del := s.del ++ (s.ents.filter (fun x => underRoot (root2 n) x.name)).map (·.name),
        ents := setForce s.ents (fun x => underRoot (root2 n) x.name) (isRootFile (root2 n)) } := by
  unfold phase3Step
  have hp' : (!(isUnder "apps" n) && !(isUnder "modules" n)) = false := by
    rw [Bool.eq_false_iff]; intro hc; rw [← inPkg_false_iff] at hc; simp [hp] at hc
  have hdm : root2 n ∉ s.done := by simpa using hd
  simp [hf, h, hp', hdm]

structure P3Inv (p : Plan) (seen : List Name) (s : P3) : Prop where
  sound : ∀ r ∈ s.done, ForcedRoot p.ents r
  complete : ∀ n ∈ seen, ∀ e, findEntry p.ents n = some e → e.force = true → inPkg n = true → root2 n ∈ s.done
  ents : s.ents = setForce p.ents (fun e => s.done.contains (root2 e.name)) (fun e => isRootFile (root2 e.name) e)
  del : ∀ n, n ∈ s.del ↔ n ∈ p.del ∨ (hasName p.ents n = true ∧ root2 n ∈ s.done)

theorem phase3Step_inv {p : Plan} {seen : List Name} {s : P3} (h : P3Inv p seen s) (n : Name) :
    P3Inv p (seen ++ [n]) (phase3Step s n) := by
  -- when the step does nothing, only `complete` has something new to show, about `n`
  have skip : phase3Step s n = s →
      (∀ e, findEntry p.ents n = some e → e.force = true → inPkg n = true → root2 n ∈ s.done) →
      P3Inv p (seen ++ [n]) (phase3Step s n) := by
    intro hs hn
    rw [hs]
    refine ⟨h.sound, fun m hm e hf hfo hp => ?_, h.ents, h.del⟩
    rcases List.mem_append.mp hm with hm | hm
    · exact h.complete m hm e hf hfo hp
    · obtain rfl := List.mem_singleton.mp hm
      exact hn e hf hfo hp
  by_cases hd : s.done.contains (root2 n) = true
  · exact skip (phase3Step_skip fun _ _ _ _ => hd) fun _ _ _ _ => List.contains_iff_mem.mp hd
  have hd' : s.done.contains (root2 n) = false := Bool.eq_false_iff.mpr hd
  -- the root is not done, so the entry of `n` still is the original one
  have hcur : findEntry s.ents n = findEntry p.ents n := by
    rw [h.ents, findEntry_setForce]
    cases hf : findEntry p.ents n with
    | none => rfl
    | some e =>
      simp only [Option.map_some, upd_eq, (findEntry_some hf).2, hd']
      simp
  by_cases hw : ∃ e, findEntry p.ents n = some e ∧ e.force = true ∧ inPkg n = true
  · obtain ⟨e, hf, hfo, hp⟩ := hw
    have hen : e.name = n := (findEntry_some hf).2
    rw [phase3Step_widen (hcur.trans hf) hfo hp hd']
    have hlen : (root2 n).length = 2 :=
      (Bool.or_eq_true_iff.mp hp).elim root2_length_of_isUnder root2_length_of_isUnder
    refine ⟨?_, ?_, ?_, ?_⟩
    · intro r hr
      rcases List.mem_cons.mp hr with rfl | hr
      · exact ⟨e, (findEntry_some hf).1, hfo, by rw [hen]; exact hp, by rw [hen]⟩
      · exact h.sound r hr
    · intro m hm e' hf' hfo' hp'
      rcases List.mem_append.mp hm with hm | hm
      · exact List.mem_cons_of_mem _ (h.complete m hm e' hf' hfo' hp')
      · rw [List.mem_singleton.mp hm]; exact List.mem_cons_self
    · simp only [h.ents, setForce, List.map_map]
      apply List.map_congr_left
      intro x _
      simp only [Function.comp, upd_eq, setF_name, setF_setF, setF_force, isRootFile_setF, List.contains_cons]
      rw [setF_inj]
      by_cases hu : underRoot (root2 n) x.name = true
      · have heq := (underRoot_iff hlen).mp hu
        simp [hu, heq]
      · have hne : ¬ root2 x.name = root2 n := fun heq => hu ((underRoot_iff hlen).mpr heq)
        simp [hu, hne]
    · intro m
      have hnames : s.ents.map (·.name) = p.ents.map (·.name) := by rw [h.ents]; exact map_name_setForce ..
      rw [List.mem_append, h.del m, mem_filter_names, hasName_congr hnames, underRoot_iff hlen, List.mem_cons, or_assoc,
        ← and_or_left, or_comm (a := root2 m ∈ s.done)]
  · exact skip (phase3Step_skip fun e he hfo hp => absurd ⟨e, hcur.symm.trans he, hfo, hp⟩ hw)
      fun e hf hfo hp => absurd ⟨e, hf, hfo, hp⟩ hw

/-- after the loop `done` holds exactly the roots with a forced entry (the table holds one entry per name) -/
theorem phase3_final (p : Plan) (hnd : NamesNodup p.ents) :
    ∃ s : P3, phase3 p = { del := s.del, ents := s.ents } ∧ P3Inv p (p.ents.map (·.name)) s ∧
      ∀ r, r ∈ s.done ↔ ForcedRoot p.ents r := by
  have hinv := foldl_seen (I := P3Inv p) (l := p.ents.map (·.name)) (s := { done := [], del := p.del, ents := p.ents })
    (fun _ _ h n _ => phase3Step_inv h n)
    ⟨List.forall_mem_nil _, List.forall_mem_nil _, (setForce_false _ _).symm,
      fun n => ⟨.inl, fun h => h.elim id fun ⟨_, h⟩ => nomatch h⟩⟩
  refine ⟨_, rfl, hinv, fun r => ⟨hinv.sound r, ?_⟩⟩
  rintro ⟨e, he, hfo, hp, hr⟩
  exact hr ▸ hinv.complete e.name (List.mem_map_of_mem (f := (·.name)) he) e (findEntry_of_nodup hnd he) hfo hp

theorem phase3_del (p : Plan) (hnd : NamesNodup p.ents) (n : Name) :
    n ∈ (phase3 p).del ↔ n ∈ p.del ∨ (hasName p.ents n = true ∧ ForcedRoot p.ents (root2 n)) := by
  obtain ⟨s, hs, hinv, hdone⟩ := phase3_final p hnd
  rw [hs, hinv.del n, hdone]

section
variable {loaded : List Ctx} {rank : Name → Nat} (hacyc : Acyclic loaded rank) {fuel : Nat}
  (hfuel : ∀ c ∈ loaded, rank c.name < fuel) (p : Plan)
include hacyc hfuel

theorem plan_del_iff (hnd : NamesNodup p.ents) (n : Name) :
    n ∈ (phase3 (phase2 loaded fuel p)).del ↔ n ∈ p.del ∨ ReloadImporter loaded p n ∨ (hasName p.ents n = true ∧
      ∃ e ∈ p.ents, (e.force = true ∨ ReloadImporter loaded p e.name) ∧ inPkg e.name = true ∧ root2 e.name = root2 n) := by
  have hnd2 : NamesNodup (phase2 loaded fuel p).ents := hnd.congr (phase2_names hacyc hfuel p)
  rw [phase3_del _ hnd2, phase2_del hacyc hfuel, phase2_forcedRoot hacyc hfuel, hasName_congr (phase2_names hacyc hfuel p),
    or_assoc]

theorem forced_after (hnd : NamesNodup p.ents) {e : Entry} (he : e ∈ p.ents) (hf : e.force = true) :
    ∃ e' ∈ (phase3 (phase2 loaded fuel p)).ents, e'.name = e.name ∧
      e'.force = if inPkg e.name then isRootFile (root2 e.name) e else true := by
  have hnd2 : NamesNodup (phase2 loaded fuel p).ents := hnd.congr (phase2_names hacyc hfuel p)
  obtain ⟨F, _, h2, _⟩ := phase2_spec hacyc hfuel p
  have he2 : e ∈ (phase2 loaded fuel p).ents := by
    rw [h2]
    refine mem_setForce.mpr ⟨e, he, ?_⟩
    rw [upd_eq, ← hf, ite_self, setF_self]
  obtain ⟨s, hs, hinv, hD⟩ := phase3_final _ hnd2
  rw [hs]
  refine ⟨_, hinv.ents ▸ mem_setForce.mpr ⟨e, he2, rfl⟩, upd_name _ _ e, ?_⟩
  rw [upd_force]
  by_cases hp : inPkg e.name = true
  · rw [if_pos hp, if_pos (List.contains_iff_mem.mpr ((hD _).mpr ⟨e, he2, hf, hp, rfl⟩))]
  · rw [if_neg hp, hf, if_neg]
    intro hc
    obtain ⟨e0, _, _, hp0, hr0⟩ := (hD _).mp (List.contains_iff_mem.mp hc)
    exact hp (inPkg_of_root2_eq hr0.symm hp0)

end

def p1Default (loaded : List Ctx) (ents : List Entry) : Plan :=
  { del := goneNames loaded ents ++ changedNames loaded ents,
    ents := ents.map (fun e => e.setF (force1 loaded e)) }

theorem phase1_default (loaded : List Ctx) (ents : List Entry) :
    phase1 loaded ents .default = some (p1Default loaded ents) := rfl

theorem p1_names (loaded : List Ctx) (ents : List Entry) :
    (p1Default loaded ents).ents.map (·.name) = ents.map (·.name) := map_name_map (f := fun e => e.setF (force1 loaded e)) (fun _ => rfl) ents

theorem mem_p1_ents {loaded : List Ctx} {ents : List Entry} {e1 : Entry} :
    e1 ∈ (p1Default loaded ents).ents ↔ ∃ e ∈ ents, e.setF (force1 loaded e) = e1 := List.mem_map

theorem disc_of_differs {loaded : List Ctx} {ents : List Entry} (hnd : NamesNodup ents) {e : Entry} (he : e ∈ ents)
    {c : Ctx} (hf : findCtx loaded e.name = some c) (hd : differs c e = true) : Disc loaded ents e.name := by
  obtain ⟨hc, hn⟩ := findCtx_some hf
  rw [← hn]
  refine .changed hc (.inr ⟨e, ?_, hd⟩)
  rw [hn]; exact findEntry_of_nodup hnd he

theorem mem_p1_del {loaded : List Ctx} {ents : List Entry} {n : Name} : n ∈ (p1Default loaded ents).del ↔
    (∃ c ∈ loaded, hasName ents c.name = false ∧ c.name = n) ∨ ∃ e ∈ ents, isChanged loaded e = true ∧ e.name = n := by
  simp only [p1Default, List.mem_append, goneNames, changedNames, List.mem_map, List.mem_filter, Bool.not_eq_true',
    and_assoc]

theorem p1_del_disc {loaded : List Ctx} {ents : List Entry} (hnd : NamesNodup ents) {n : Name}
    (h : n ∈ (p1Default loaded ents).del) : Disc loaded ents n := by
  rcases mem_p1_del.mp h with ⟨c, hc, hg, rfl⟩ | ⟨e, he, hch, rfl⟩
  · exact .changed hc (.inl (findEntry_none.mpr (hasName_false_iff.mp hg)))
  · unfold isChanged at hch
    split at hch
    · rename_i c hf; exact disc_of_differs hnd he hf hch
    · simp at hch

theorem p1_forced_why {loaded : List Ctx} {ents : List Entry} (hnd : NamesNodup ents) {e1 : Entry}
    (h1 : e1 ∈ (p1Default loaded ents).ents) (hf : e1.force = true) :
    (Loaded loaded e1.name ∧ Disc loaded ents e1.name) ∨
    (∃ e ∈ ents, e.name = e1.name ∧ e.autoload = true ∧ findCtx loaded e.name = none) := by
  obtain ⟨e, he, rfl⟩ := mem_p1_ents.mp h1
  simp only [setF_force, setF_name] at hf ⊢
  unfold force1 at hf
  split at hf
  · rename_i c hfc
    exact .inl ⟨⟨c, findCtx_some hfc⟩, disc_of_differs hnd he hfc hf⟩
  · rename_i hfc
    exact .inr ⟨e, he, rfl, hf, hfc⟩

theorem willReload_p1_disc {loaded : List Ctx} {ents : List Entry} (hnd : NamesNodup ents) (hmod : ModsNotAuto ents) {r : Name}
    (h : r ∈ willReload (p1Default loaded ents)) :
    ∃ d, root2 d = r ∧ Disc loaded ents d := by
  obtain ⟨e1, h1, hu, hdf, rfl⟩ := mem_willReload.mp h
  refine ⟨e1.name, rfl, ?_⟩
  rcases hdf with hd | hf
  · exact p1_del_disc hnd hd
  · rcases p1_forced_why hnd h1 hf with ⟨_, hd⟩ | ⟨e, he, hn, ha, _⟩
    · exact hd
    · have := hmod e he ha
      rw [hn, hu] at this
      exact absurd this (by simp)

theorem disc_of_reach {loaded : List Ctx} {ents : List Entry} {wr : List Name}
    (hwr : ∀ r ∈ wr, ∃ d, root2 d = r ∧ Disc loaded ents d) {n m : Name} (h : Reach loaded n m)
    (hm : root2 m ∈ wr) : Disc loaded ents n := by
  induction h with
  | direct hf hi =>
    obtain ⟨d, hd, hdisc⟩ := hwr _ hm
    obtain ⟨hc, hn⟩ := findCtx_some hf
    rw [← hn]
    exact .importer hc hi hd.symm hdisc
  | step hf hi _ ih =>
    obtain ⟨hc, hn⟩ := findCtx_some hf
    rw [← hn]
    exact .importer hc hi rfl (ih hm)

structure DefaultPlan (fuel : Nat) (loaded : List Ctx) (ents : List Entry) (pl : Plan) : Prop where
  eq : pl = phase3 (phase2 loaded fuel (p1Default loaded ents))

theorem plan_default {fuel : Nat} {loaded : List Ctx} {ents : List Entry} {pl : Plan}
    (h : plan fuel loaded ents .default = some pl) : pl = phase3 (phase2 loaded fuel (p1Default loaded ents)) :=
  (Option.some.inj h).symm

theorem defaultPlan_sound {loaded : List Ctx} {ents : List Entry} {rank : Name → Nat} (hacyc : Acyclic loaded rank)
    {fuel : Nat} (hfuel : ∀ c ∈ loaded, rank c.name < fuel) (hnd : NamesNodup ents) (hmod : ModsNotAuto ents)
    {n : Name} (hn : n ∈ (phase3 (phase2 loaded fuel (p1Default loaded ents))).del) (hl : Loaded loaded n) :
    Disc loaded ents n := by
  have hwr : ∀ r ∈ willReload (p1Default loaded ents), ∃ d, root2 d = r ∧ Disc loaded ents d :=
    fun _ hr => willReload_p1_disc hnd hmod hr
  have hnd1 : NamesNodup (p1Default loaded ents).ents := hnd.congr (p1_names loaded ents)
  rcases (plan_del_iff hacyc hfuel _ hnd1 n).mp hn with h | ⟨_, x, hx, hxw⟩ | ⟨_, e1, he1, hor, hp, hr⟩
  · exact p1_del_disc hnd h
  · exact disc_of_reach hwr hx hxw
  · obtain ⟨c, hc, rfl⟩ := hl
    have hpc : inPkg c.name = true := inPkg_of_root2_eq hr.symm hp
    -- the forced entry of the package: a discarded context, or a new auto-loaded file
    have hwhy : Disc loaded ents e1.name ∨
        ∃ e ∈ ents, e.name = e1.name ∧ e.autoload = true ∧ findCtx loaded e.name = none := by
      rcases hor with hf | ⟨_, x, hx, hxw⟩
      · exact (p1_forced_why hnd he1 hf).imp (·.2) id
      · exact .inl (disc_of_reach hwr hx hxw)
    rcases hwhy with hd | ⟨e, he, hen, ha, hfn⟩
    · exact .sibling hc hpc hr.symm hd
    · exact .siblingNew hc hpc he hfn ha (by rw [hen]; exact hr.symm)

/-- the three side conditions under which the code discards everything the documentation asks for -/
structure CompleteHyps (loaded : List Ctx) (ents : List Entry) : Prop where
  /-- no loaded member of an app or module has lost its file (finding C10-F1 otherwise) -/
  present : ∀ c ∈ loaded, inPkg c.name = true → hasName ents c.name = true
  /-- whoever imports a member of a module package reaches what every loaded member of it imports
  (finding C10-F2 otherwise) -/
  coherent : ∀ c ∈ loaded, ∀ i ∈ c.imports, isUnder "modules" i = true → ∀ d ∈ loaded, root2 d.name = root2 i →
    ∀ m, Reach loaded d.name m → Reach loaded c.name m
  /-- imports lead to modules or stay inside the importer's own app/module -/
  local_ : ∀ c ∈ loaded, ∀ i ∈ c.imports, isUnder "modules" i = true ∨ (inPkg c.name = true ∧ root2 i = root2 c.name)

/-- **completeness of the plan** under `CompleteHyps`, by induction on the derivation of `Disc`; the statement is
strengthened by what the later phases need to know about the package of a discarded context -/
theorem defaultPlan_complete {loaded : List Ctx} {ents : List Entry} {rank : Name → Nat} (hacyc : Acyclic loaded rank)
    {fuel : Nat} (hfuel : ∀ c ∈ loaded, rank c.name < fuel) (hnd : NamesNodup ents) (hmod : ModsNotAuto ents)
    (hln : (loaded.map (·.name)).Nodup) (H : CompleteHyps loaded ents)
    {n : Name} (hdisc : Disc loaded ents n) : n ∈ (phase3 (phase2 loaded fuel (p1Default loaded ents))).del := by
  have hnd1 : NamesNodup (p1Default loaded ents).ents := hnd.congr (p1_names loaded ents)
  have hdel := plan_del_iff hacyc hfuel (p1Default loaded ents) hnd1
  have hnames : ∀ m, hasName (p1Default loaded ents).ents m = hasName ents m := hasName_congr (p1_names loaded ents)
  generalize hp1 : p1Default loaded ents = p1 at hdel hnames ⊢
  -- the root `r` gets widened
  let W : Name → Prop := fun r =>
    ∃ e ∈ p1.ents, (e.force = true ∨ ReloadImporter loaded p1 e.name) ∧ inPkg e.name = true ∧ root2 e.name = r
  -- the module root `r` is reloaded, or has a member that imports one that is
  let RootProp : Name → Prop := fun r =>
    r ∈ willReload p1 ∨ ∃ d ∈ loaded, root2 d.name = r ∧ ImportsRootIn loaded (willReload p1) d.name
  let Goal : Name → Prop := fun n => n ∈ (phase3 (phase2 loaded fuel p1)).del ∧ (inPkg n = true → W (root2 n)) ∧
    (isUnder "modules" n = true → RootProp (root2 n))
  suffices hmain : Goal n from hmain.1
  -- a loaded member of the package of `d` inherits what is known about `d`
  have viaPkg : ∀ c ∈ loaded, inPkg c.name = true → ∀ d, root2 c.name = root2 d → (inPkg d = true → W (root2 d)) →
      (isUnder "modules" d = true → RootProp (root2 d)) → Goal c.name := by
    intro c hc hp d hr hW hR
    have hw : W (root2 c.name) := hr ▸ hW (inPkg_of_root2_eq hr.symm hp)
    exact ⟨(hdel _).mpr (.inr (.inr ⟨(hnames _).trans (H.present c hc hp), hw⟩)), fun _ => hw,
      fun hu => hr ▸ hR (isUnder_of_root2_eq hr.symm hu)⟩
  have forced : ∀ e ∈ ents, (force1 loaded e = true ∨ ReloadImporter loaded p1 e.name) → inPkg e.name = true →
      W (root2 e.name) :=
    fun e he hor hp => ⟨e.setF (force1 loaded e), hp1 ▸ mem_p1_ents.mpr ⟨e, he, rfl⟩, hor, hp, rfl⟩
  induction hdisc with
  | @changed c hc hch =>
    have hfc := findCtx_of_nodup hln hc
    rcases hch with hnone | ⟨e, hfe, hdiff⟩
    · -- the file is gone
      have hno : hasName ents c.name = false := hasName_false_iff.mpr (findEntry_none.mp hnone)
      have hgone : c.name ∈ p1.del := hp1 ▸ mem_p1_del.mpr (.inl ⟨c, hc, hno, rfl⟩)
      have hnp : inPkg c.name = false :=
        Bool.of_not_eq_true fun hp => Bool.false_ne_true (hno.symm.trans (H.present c hc hp))
      refine ⟨(hdel _).mpr (.inl hgone), fun hp => absurd (hp.symm.trans hnp) (by decide), fun hu => ?_⟩
      rw [inPkg, hu, Bool.or_true] at hnp; cases hnp
    · obtain ⟨he, hen⟩ := findEntry_some hfe
      have hf1 : force1 loaded e = true := by
        unfold force1; rw [hen, hfc]; exact hdiff
      have hchg : c.name ∈ p1.del :=
        hp1 ▸ mem_p1_del.mpr (.inr ⟨e, he, by unfold isChanged; rw [hen, hfc]; exact hdiff, hen⟩)
      rw [← hen] at hchg ⊢
      refine ⟨(hdel _).mpr (.inl hchg), forced e he (.inl hf1), fun hu => .inl ?_⟩
      exact mem_willReload.mpr ⟨e.setF (force1 loaded e), hp1 ▸ mem_p1_ents.mpr ⟨e, he, rfl⟩, hu, .inl hchg, rfl⟩
  | @sibling c d hc hp hr _ ih => exact viaPkg c hc hp d hr ih.2.1 ih.2.2
  | @siblingNew c e hc hp he hfn ha hr =>
    have hf1 : force1 loaded e = true := by unfold force1; rw [hfn]; exact ha
    exact viaPkg c hc hp e.name hr (forced e he (.inl hf1)) fun hu => absurd ((hmod e he ha).symm.trans hu) (by decide)
  | @importer c i d hc hi hr _ ih =>
    have hfc := findCtx_of_nodup hln hc
    rcases H.local_ c hc i hi with hui | ⟨hp, hri⟩
    · -- an import of a module member
      have hud : isUnder "modules" d = true := isUnder_of_root2_eq hr.symm hui
      have himp : ReloadImporter loaded p1 c.name := by
        refine ⟨⟨c, hc, rfl⟩, ?_⟩
        rcases ih.2.2 hud with hwr | ⟨d', hd', hrd', m, hm, hmw⟩
        · exact ⟨i, .direct hfc hi, hr ▸ hwr⟩
        · exact ⟨m, H.coherent c hc i hi hui d' hd' (hrd'.trans hr.symm) m hm, hmw⟩
      refine ⟨(hdel _).mpr (.inr (.inl himp)), fun hp => ?_, fun _ => .inr ⟨c, hc, rfl, himp.2⟩⟩
      obtain ⟨e, he, hen⟩ := hasName_iff.mp (H.present c hc hp)
      rw [← hen] at himp hp ⊢
      exact forced e he (.inr himp) hp
    · -- an import inside the importer's own package
      exact viaPkg c hc hp d (hri.symm.trans hr) ih.2.1 ih.2.2

theorem changedB_iff {ents : List Entry} {c : Ctx} : changedB ents c = true ↔ Changed ents c := by
  unfold changedB Changed
  cases findEntry ents c.name <;> simp

/-- one round of the iteration applies each rule of `Disc` once, to premises in `D` -/
theorem mem_discStep {loaded : List Ctx} {ents : List Entry} {D : List Name} {n : Name} :
    n ∈ discStep loaded ents D ↔ ∃ c ∈ loaded, (Changed ents c ∨
      (inPkg c.name = true ∧ ∃ d ∈ D, root2 c.name = root2 d) ∨
      (inPkg c.name = true ∧ ∃ e ∈ ents, findCtx loaded e.name = none ∧ e.autoload = true ∧ root2 c.name = root2 e.name) ∨
      ∃ i ∈ c.imports, ∃ d ∈ D, root2 i = root2 d) ∧ c.name = n := by
  simp only [discStep, List.mem_map, List.mem_filter, Bool.or_eq_true, or_assoc, changedB_iff, siblingB, siblingNewB,
    importerB, Bool.and_eq_true, List.any_eq_true, beq_iff_eq, Option.isNone_iff_eq_none, and_assoc]

theorem discStep_sound {loaded : List Ctx} {ents : List Entry} {D : List Name}
    (hD : ∀ n ∈ D, Disc loaded ents n) : ∀ n ∈ discStep loaded ents D, Disc loaded ents n := by
  intro n hn
  obtain ⟨c, hc, hch | ⟨hp, d, hd, hr⟩ | ⟨hp, e, he, hfn, ha, hr⟩ | ⟨i, hi, d, hd, hr⟩, rfl⟩ := mem_discStep.mp hn
  · exact .changed hc hch
  · exact .sibling hc hp hr (hD d hd)
  · exact .siblingNew hc hp he hfn ha hr
  · exact .importer hc hi hr (hD d hd)

theorem iter_invariant {f : List Name → List Name} {P : List Name → Prop} (hf : ∀ D, P D → P (f D)) :
    ∀ (k : Nat) (D : List Name), P D → P (iter f k D)
  | 0, _, h => h
  | k + 1, D, h => iter_invariant hf k (f D) (hf D h)

theorem disc_in_stable {loaded : List Ctx} {ents : List Entry} {D : List Name}
    (hst : stable loaded ents D = true) {n : Name} (h : Disc loaded ents n) : n ∈ D := by
  have hsub : ∀ m ∈ discStep loaded ents D, m ∈ D := by
    intro m hm
    simp only [stable, List.all_eq_true, List.contains_iff_mem] at hst
    exact hst m hm
  induction h with
  | @changed c hc hch => exact hsub _ (mem_discStep.mpr ⟨c, hc, .inl hch, rfl⟩)
  | @sibling c d hc hp hr _ ih => exact hsub _ (mem_discStep.mpr ⟨c, hc, .inr (.inl ⟨hp, d, ih, hr⟩), rfl⟩)
  | @siblingNew c e hc hp he hfn ha hr =>
    exact hsub _ (mem_discStep.mpr ⟨c, hc, .inr (.inr (.inl ⟨hp, e, he, hfn, ha, hr⟩)), rfl⟩)
  | @importer c i d hc hi hr _ ih =>
    exact hsub _ (mem_discStep.mpr ⟨c, hc, .inr (.inr (.inr ⟨i, hi, d, ih, hr⟩)), rfl⟩)

/-- a plan whose first phase deletes and forces nothing but `n` deletes, besides `n`, only what `Spec.DiscOnly` allows -/
theorem plan_single {loaded : List Ctx} {rank : Name → Nat} (hacyc : Acyclic loaded rank) {fuel : Nat}
    (hfuel : ∀ c ∈ loaded, rank c.name < fuel) {n : Name} {p1 : Plan} (hnd1 : NamesNodup p1.ents)
    (hdel1 : ∀ x ∈ p1.del, x = n) (hforce1 : ∀ e1 ∈ p1.ents, e1.force = true → e1.name = n)
    (hdn : ∀ e1 ∈ p1.ents, e1.name ∉ p1.del) {m : Name} (hm : m ∈ (phase3 (phase2 loaded fuel p1)).del) :
    m = n ∨ DiscOnly loaded n m := by
  -- only the module root of `n` can be reloaded
  have himp : ∀ d, ImportsRootIn loaded (willReload p1) d →
      isUnder "modules" n = true ∧ ∃ x, Reach loaded d x ∧ root2 x = root2 n := by
    rintro d ⟨x, hx, hxw⟩
    obtain ⟨e1, he1, hu, hdf, hre⟩ := mem_willReload.mp hxw
    have hen : e1.name = n := hdf.elim (fun hd => absurd hd (hdn e1 he1)) (hforce1 e1 he1)
    exact ⟨hen ▸ hu, x, hx, by rw [← hre, hen]⟩
  rcases (plan_del_iff hacyc hfuel p1 hnd1 m).mp hm with h | hi | ⟨_, e1, he1, hor, hp0, hr0⟩
  · exact .inl (hdel1 m h)
  · obtain ⟨hu, x, hx, hr⟩ := himp m hi.2
    exact .inr (.importer hu hx hr)
  · rcases hor with hf1 | hi
    · rw [hforce1 e1 he1 hf1] at hp0 hr0
      exact .inr (.pkg hp0 hr0.symm)
    · obtain ⟨hu, x, hx, hr⟩ := himp e1.name hi.2
      exact .inr (.importerPkg hu hx hr hp0 hr0.symm)

end PsModel.C10
