import PsModel.Spec.C03
/-! keyword-table facts, and the loops of `EvalFunc.call` characterised by the reference -/
namespace PsModel.C03

namespace KW

/-- among the entries with key `q ≠ p`, the filter of `erase p` lets everything through -/
theorem erase_key_ne {p q : String} (h : q ≠ p) :
    (fun a : String × Nat => a.1 != p && a.1 == q) = fun a => a.1 == q := by
  funext a
  by_cases hq : a.1 = q
  · simp [hq, h]
  · simp [hq]

theorem has_erase_ne (kw : KW) (p q : String) (h : q ≠ p) : (kw.erase p).has q = kw.has q := by
  rw [KW.erase, KW.has, List.any_filter, KW.erase_key_ne h]; rfl

theorem get_erase_ne (kw : KW) (p q : String) (h : q ≠ p) : (kw.erase p).get q = kw.get q := by
  simp only [KW.erase, KW.get, List.find?_filter, Bool.decide_and, Bool.decide_eq_true, KW.erase_key_ne h]

theorem erase_of_not_has (kw : KW) (p : String) (h : kw.has p = false) : kw.erase p = kw := by
  simp only [KW.has, List.any_eq_false, beq_iff_eq] at h
  exact List.filter_eq_self.mpr fun a ha => by simpa using h a ha

theorem has_iff_mem_keys (kw : KW) (k : String) : kw.has k = true ↔ k ∈ kw.keys := by
  simp only [KW.has, KW.keys, List.any_eq_true, List.mem_map, beq_iff_eq]

def eraseList (kw : KW) : List String → KW
  | [] => kw
  | k :: ks => (kw.erase k).eraseList ks

theorem eraseList_append (ks ls : List String) : ∀ kw : KW, (kw.eraseList ks).eraseList ls = kw.eraseList (ks ++ ls) := by
  induction ks with
  | nil => intro kw; rfl
  | cons k ks ih => intro kw; exact ih (kw.erase k)

theorem eraseList_filter (ks : List String) : ∀ kw : KW,
    kw.eraseList ks = kw.filter (fun p => !ks.contains p.1) := by
  induction ks with
  | nil =>
    intro kw
    simp only [KW.eraseList, List.contains_nil, Bool.not_false]
    exact (List.filter_eq_self.mpr (by simp)).symm
  | cons k ks ih =>
    intro kw
    simp only [KW.eraseList, ih, KW.erase, List.filter_filter]
    apply List.filter_congr
    intro p _
    by_cases h : p.1 = k <;> simp [h, bne, Bool.and_comm]

/-- the two tables answer alike for the names in `ps`: what the loops preserve about the parameters still to come -/
def Agree (kw kw0 : KW) (ps : List String) : Prop := ∀ p ∈ ps, kw.has p = kw0.has p ∧ kw.get p = kw0.get p

namespace Agree

theorem refl (kw : KW) (ps : List String) : kw.Agree kw ps := fun _ _ => ⟨rfl, rfl⟩

theorem erase {kw kw0 : KW} {p : String} {ps : List String} (h : kw.Agree kw0 ps) (hp : p ∉ ps) :
    (kw.erase p).Agree kw0 ps := fun q hq => by
  have hne : q ≠ p := fun e => hp (e ▸ hq)
  rw [KW.has_erase_ne _ _ _ hne, KW.get_erase_ne _ _ _ hne]
  exact h q hq

theorem eraseList {kw kw0 : KW} {ps : List String} (ks : List String) (h : kw.Agree kw0 ps)
    (hd : ∀ p ∈ ps, p ∉ ks) : (kw.eraseList ks).Agree kw0 ps := by
  induction ks generalizing kw with
  | nil => exact h
  | cons k ks ih =>
    exact ih (h.erase fun hk => hd k hk List.mem_cons_self) fun p hp hk => hd p hp (List.mem_cons_of_mem _ hk)

end Agree
end KW

theorem index_step {i n m : Nat} (h : i + (n + 1) = m) : i < m ∧ i + 1 + n = m :=
  ⟨h ▸ Nat.lt_add_of_pos_right (Nat.succ_pos n), Nat.add_right_comm i 1 n ▸ h⟩

section
variable (cfg : Cfg) (s : Sig) (args : List Nat)

namespace Spec

theorem posSlots_cons (kw : KW) (i : Nat) (p : String) (ps : List String) :
    Spec.posSlots s args kw i (p :: ps) =
      (Spec.slotVal s args kw i p).bind fun v => (Spec.posSlots s args kw (i + 1) ps).map ((p, v) :: ·) := by
  rw [Spec.posSlots]
  cases Spec.slotVal s args kw i p
  · rfl
  · cases Spec.posSlots s args kw (i + 1) ps <;> rfl

theorem slotVal_congr {kw kw0 : KW} {p : String} (h : kw.has p = kw0.has p ∧ kw.get p = kw0.get p) (i : Nat) :
    Spec.slotVal s args kw i p = Spec.slotVal s args kw0 i p := by
  rw [Spec.slotVal, Spec.slotVal, h.1, h.2]

end Spec

namespace PS

/-- the repaired loop, for a function with `**kwargs`: a keyword named like a positional-only parameter is not matched
against it (`skipKw` of `PS.posLoop` without the index test) -/
def sparesPosonlyKw : Bool := cfg.posonlyKwToKwargs && s.kwarg

/-- one iteration of the index loop over `posonlyargs + args`: the value bound, the keywords left, `bad_kwargs` non-empty -/
def posStep (i : Nat) (p : String) (kw : KW) (bad : Bool) : Option (ArgVal × KW × Bool) :=
  if i < args.length then
    if kw.has p && !(sparesPosonlyKw cfg s && i < s.posonly.length) then none
    else some (.given (args.getD i 0), kw, bad)
  else if kw.has p && !(sparesPosonlyKw cfg s && i < s.posonly.length) then
    some (.given ((kw.get p).getD 0), kw.erase p, bad || i < s.posonly.length)
  else if s.nposn ≤ i then some (.dflt (i - s.nposn), kw, bad) else none

theorem posLoop_cons (i : Nat) (p : String) (ps : List String) (kw : KW) (bad : Bool) :
    PS.posLoop cfg s args i (p :: ps) kw bad =
      (PS.posStep cfg s args i p kw bad).bind fun t =>
        (PS.posLoop cfg s args (i + 1) ps t.2.1 t.2.2).map fun r => ((p, t.1) :: r.1, r.2) := by
  rw [PS.posLoop]
  unfold PS.posStep PS.sparesPosonlyKw
  by_cases h1 : i < args.length
  · rw [if_pos h1, if_pos h1]
    by_cases h2 : (kw.has p && !(cfg.posonlyKwToKwargs && s.kwarg && decide (i < s.posonly.length))) = true
    · rw [if_pos h2, if_pos h2]; rfl
    · rw [if_neg h2, if_neg h2]; rfl
  · rw [if_neg h1, if_neg h1]
    by_cases h2 : (kw.has p && !(cfg.posonlyKwToKwargs && s.kwarg && decide (i < s.posonly.length))) = true
    · rw [if_pos h2, if_pos h2]; rfl
    · rw [if_neg h2, if_neg h2]
      by_cases h3 : s.nposn ≤ i
      · rw [if_pos h3, if_pos h3]; rfl
      · rw [if_neg h3, if_neg h3]; rfl

theorem posStep_posonly {i : Nat} {p : String} {kw : KW} (bad : Bool) (hi : i < s.posonly.length)
    (hq : sparesPosonlyKw cfg s = true ∨ kw.has p = false) :
    PS.posStep cfg s args i p kw bad = (Spec.slotVal s args kw i p).map fun v => (v, kw, bad) := by
  have hm : (kw.has p && !(sparesPosonlyKw cfg s && decide (i < s.posonly.length))) = false := by
    rcases hq with h | h
    · rw [h, decide_eq_true hi]; exact Bool.and_false _
    · rw [h]; rfl
  have hs : (decide (s.posonly.length ≤ i) && kw.has p) = false := by
    rw [decide_eq_false (Nat.not_le.mpr hi)]; rfl
  simp only [PS.posStep, Spec.slotVal, hm, hs, Bool.false_eq_true, if_false]
  by_cases h1 : i < args.length
  · simp only [h1, if_true, Option.map_some]
  · by_cases h3 : s.nposn ≤ i <;> simp only [h1, h3, if_true, if_false, Option.map_some, Option.map_none]

theorem posStep_args {i : Nat} (p : String) (kw : KW) (bad : Bool) (hi : s.posonly.length ≤ i) :
    PS.posStep cfg s args i p kw bad =
      if decide (i < args.length) && kw.has p then none
      else (Spec.slotVal s args kw i p).map fun v => (v, kw.erase p, bad) := by
  have hlt : decide (i < s.posonly.length) = false := decide_eq_false (Nat.not_lt.mpr hi)
  simp only [PS.posStep, Spec.slotVal, hlt, Bool.and_false, Bool.not_false, Bool.and_true, Bool.or_false,
    decide_eq_true hi, Bool.true_and]
  cases hh : kw.has p with
  | true => by_cases h1 : i < args.length <;> simp [h1]
  | false =>
    rw [KW.erase_of_not_has kw p hh]
    by_cases h1 : i < args.length
    · simp [h1]
    · by_cases h3 : s.nposn ≤ i <;> simp [h1, h3]

theorem posStep_match {i : Nat} {p : String} {kw : KW} {bad : Bool} (hi : i < s.posonly.length)
    (hf : sparesPosonlyKw cfg s = false) {t : ArgVal × KW × Bool}
    (h : PS.posStep cfg s args i p kw bad = some t) :
    if kw.has p then t.2.2 = true else t.2.1 = kw ∧ t.2.2 = bad := by
  simp only [PS.posStep, hf, Bool.not_false, Bool.and_true, decide_eq_true hi, Bool.or_true] at h
  cases hh : kw.has p with
  | true =>
    by_cases h1 : i < args.length <;> simp [hh, h1] at h
    simp [← h]
  | false =>
    by_cases h1 : i < args.length <;> by_cases h3 : s.nposn ≤ i <;> simp [hh, h1, h3] at h <;> simp [← h]

/-- The keywords left are described by erasing EVERY name of the segment: a name the loop did not pop was not there. -/
theorem posLoop_args (kw0 : KW) (bad : Bool) (ps : List String) (i : Nat) (kw : KW) (hi : s.posonly.length ≤ i)
    (hnd : ps.Nodup) (hag : kw.Agree kw0 ps) :
    PS.posLoop cfg s args i ps kw bad =
      if Spec.multipleFrom args kw0 i ps then none
      else (Spec.posSlots s args kw0 i ps).map fun sl => (sl, kw.eraseList ps, bad) := by
  induction ps generalizing i kw with
  | nil => rfl
  | cons p ps ih =>
    have hp := hag p List.mem_cons_self
    have hnd' := List.nodup_cons.mp hnd
    rw [PS.posLoop_cons, PS.posStep_args cfg s args p kw bad hi, Spec.slotVal_congr s args hp, hp.1,
      Spec.multipleFrom, Spec.posSlots_cons]
    cases decide (i < args.length) && kw0.has p with
    | true => rfl
    | false =>
      rw [Bool.false_or]
      cases Spec.slotVal s args kw0 i p with
      | none => simp only [Bool.false_eq_true, Option.map_none, Option.bind_none, ite_self]
      | some v =>
        simp only [Bool.false_eq_true, if_false, Option.map_some, Option.bind_some]
        rw [ih (i + 1) (kw.erase p) (Nat.le_succ_of_le hi) hnd'.2 (KW.Agree.erase (fun q hq => hag q (List.mem_cons_of_mem _ hq)) hnd'.1)]
        cases Spec.multipleFrom args kw0 (i + 1) ps with
        | true => rfl
        | false => cases Spec.posSlots s args kw0 (i + 1) ps <;> rfl

/-- The whole index loop when the keywords of positional-only parameters are left alone (the repaired flag with `**kwargs`,
or no such keyword): over the positional-only prefix nothing is consumed, then `posLoop_args`. -/
theorem posLoop_params (kw0 : KW) (bad : Bool) (po ar : List String) (i : Nat) (hi : i + po.length = s.posonly.length)
    (hnd : ar.Nodup) (hq : sparesPosonlyKw cfg s = true ∨ ∀ p ∈ po, kw0.has p = false) :
    PS.posLoop cfg s args i (po ++ ar) kw0 bad =
      if Spec.multipleFrom args kw0 s.posonly.length ar then none
      else (Spec.posSlots s args kw0 i (po ++ ar)).map fun sl => (sl, kw0.eraseList ar, bad) := by
  induction po generalizing i with
  | nil =>
    rw [List.nil_append, ← (show i = s.posonly.length from hi)]
    exact PS.posLoop_args cfg s args kw0 bad ar i kw0 (Nat.le_of_eq hi.symm) hnd (KW.Agree.refl _ _)
  | cons p po ih =>
    rw [List.cons_append, PS.posLoop_cons, Spec.posSlots_cons,
      PS.posStep_posonly cfg s args bad (index_step hi).1 (hq.imp_right fun h => h p List.mem_cons_self)]
    cases Spec.slotVal s args kw0 i p with
    | none => simp only [Option.map_none, Option.bind_none, ite_self]
    | some v =>
      rw [Option.map_some, Option.bind_some, Option.bind_some,
        ih (i + 1) (index_step hi).2 (hq.imp_right fun h q hq => h q (List.mem_cons_of_mem _ hq))]
      cases Spec.multipleFrom args kw0 s.posonly.length ar with
      | true => rfl
      | false => cases Spec.posSlots s args kw0 (i + 1) (po ++ ar) <;> rfl

theorem posLoop_bad_of_posonly_kw (hf : sparesPosonlyKw cfg s = false) (po ar : List String) (i : Nat) (kw : KW)
    (bad : Bool) (hi : i + po.length = s.posonly.length) (hnd : ar.Nodup)
    (hb : bad = true ∨ ∃ p ∈ po, kw.has p = true)
    (r : List (String × ArgVal) × KW × Bool) (h : PS.posLoop cfg s args i (po ++ ar) kw bad = some r) : r.2.2 = true := by
  induction po generalizing i kw bad r with
  | nil =>
    rw [List.nil_append, PS.posLoop_args cfg s args kw bad ar i kw (Nat.le_of_eq hi.symm) hnd (KW.Agree.refl _ _)] at h
    cases hm : Spec.multipleFrom args kw i ar with
    | true => rw [hm] at h; cases h
    | false =>
      rw [hm] at h
      obtain ⟨_, _, rfl⟩ := Option.map_eq_some_iff.mp h
      exact hb.resolve_right fun ⟨_, hp, _⟩ => nomatch hp
  | cons p po ih =>
    rw [List.cons_append, PS.posLoop_cons] at h
    obtain ⟨t, ht, h⟩ := Option.bind_eq_some_iff.mp h
    obtain ⟨r', hr', rfl⟩ := Option.map_eq_some_iff.mp h
    have hm := PS.posStep_match cfg s args (index_step hi).1 hf ht
    refine ih (i + 1) t.2.1 t.2.2 (index_step hi).2 ?_ r' hr'
    cases hh : kw.has p with
    | true => rw [hh] at hm; exact Or.inl hm
    | false =>
      rw [hh] at hm
      rw [hm.1, hm.2]
      refine hb.imp_right fun ⟨q, hq, hkq⟩ => ?_
      rcases List.mem_cons.mp hq with rfl | hq
      · rw [hh] at hkq; cases hkq
      · exact ⟨q, hq, hkq⟩

end PS

end

namespace Spec

theorem kwoSlots_cons (kw : KW) (i : Nat) (k : String) (d : Bool) (ks : List (String × Bool)) :
    Spec.kwoSlots kw i ((k, d) :: ks) =
      (Spec.kwonlyVal kw i k d).bind fun v => (Spec.kwoSlots kw (i + 1) ks).map ((k, v) :: ·) := by
  rw [Spec.kwoSlots]
  cases Spec.kwonlyVal kw i k d
  · rfl
  · cases Spec.kwoSlots kw (i + 1) ks <;> rfl

theorem kwonlyVal_congr {kw kw0 : KW} {k : String} (h : kw.has k = kw0.has k ∧ kw.get k = kw0.get k) (i : Nat) (d : Bool) :
    Spec.kwonlyVal kw i k d = Spec.kwonlyVal kw0 i k d := by
  rw [Spec.kwonlyVal, Spec.kwonlyVal, h.1, h.2]

end Spec

namespace PS

theorem kwonlyLoop_cons (i : Nat) (k : String) (d : Bool) (ks : List (String × Bool)) (kw : KW) :
    PS.kwonlyLoop i ((k, d) :: ks) kw =
      (Spec.kwonlyVal kw i k d).bind fun v => (PS.kwonlyLoop (i + 1) ks (kw.erase k)).map fun r => ((k, v) :: r.1, r.2) := by
  rw [PS.kwonlyLoop, Spec.kwonlyVal]
  cases hh : kw.has k with
  | true => rfl
  | false => rw [KW.erase_of_not_has kw k hh]; cases d <;> rfl

theorem kwonlyLoop_eq (kw0 : KW) (ks : List (String × Bool)) (i : Nat) (kw : KW) (hnd : (ks.map (·.1)).Nodup)
    (hag : kw.Agree kw0 (ks.map (·.1))) :
    PS.kwonlyLoop i ks kw = (Spec.kwoSlots kw0 i ks).map fun sl => (sl, kw.eraseList (ks.map (·.1))) := by
  induction ks generalizing i kw with
  | nil => rfl
  | cons kd ks ih =>
    obtain ⟨k, d⟩ := kd
    have hnd' := List.nodup_cons.mp hnd
    rw [PS.kwonlyLoop_cons, Spec.kwoSlots_cons, Spec.kwonlyVal_congr (hag k List.mem_cons_self),
      ih (i + 1) (kw.erase k) hnd'.2 (KW.Agree.erase (fun q hq => hag q (List.mem_cons_of_mem _ hq)) hnd'.1)]
    cases Spec.kwonlyVal kw0 i k d with
    | none => rfl
    | some v => cases Spec.kwoSlots kw0 (i + 1) ks <;> rfl

end PS

namespace Spec

/-- the keywords that name no parameter a keyword may bind (`extras` in `Spec.bind`) -/
def extras (s : Sig) (kw : KW) : KW := kw.filter fun p => !(Spec.kwNames s).contains p.1

theorem mem_extras {s : Sig} {kw : KW} {e : String × Nat} :
    e ∈ Spec.extras s kw ↔ e ∈ kw ∧ e.1 ∉ Spec.kwNames s := by
  simp [Spec.extras]

end Spec

section
variable (cfg : Cfg) (trig : List String) (s : Sig) (args : List Nat) (kw0 : KW)

namespace PS

/-- `PS.bind` in closed form when the keywords of positional-only parameters are left alone, for ANY list of reserved
keywords: it is the reference but for the test on the extras (all reserved, instead of none at all) -/
theorem bind_of_quiet (hnd : (s.params ++ s.kwonly.map (·.1)).Nodup)
    (hq : sparesPosonlyKw cfg s = true ∨ ∀ p ∈ s.posonly, kw0.has p = false) :
    PS.bind cfg trig s args kw0 =
      if Spec.multiple s args kw0 then none
      else if !s.kwarg && !((Spec.extras s kw0).keys.all fun k => trig.contains k) then none
      else if !s.vararg && args.length > s.params.length then none
      else match Spec.posSlots s args kw0 0 s.params, Spec.kwoSlots kw0 0 s.kwonly with
        | some a, some b =>
          some { slots := a ++ b,
                 var := if s.vararg then some (args.drop s.params.length) else none,
                 kw := if s.kwarg then some (Spec.extras s kw0) else none }
        | _, _ => none := by
  have hnd' := List.nodup_append.mp hnd
  rw [PS.bind, Spec.multiple, Sig.params, PS.posLoop_params cfg s args kw0 false s.posonly s.args 0 (Nat.zero_add _)
    (List.nodup_append.mp hnd'.1).2.1 hq]
  cases Spec.multipleFrom args kw0 s.posonly.length s.args with
  | true => rfl
  | false =>
    cases Spec.posSlots s args kw0 0 (s.posonly ++ s.args) with
    | none => simp only [Bool.false_eq_true, Option.map_none, ite_self]
    | some a =>
      simp only [Bool.false_eq_true, if_false, Option.map_some]
      rw [PS.kwonlyLoop_eq kw0 s.kwonly 0 _ hnd'.2.1 ((KW.Agree.refl kw0 _).eraseList s.args
        fun k hk ha => hnd'.2.2 k (List.mem_append_right _ ha) k hk rfl)]
      cases Spec.kwoSlots kw0 0 s.kwonly with
      | none => simp only [Option.map_none, ite_self]
      | some b =>
        simp only [Option.map_some]
        rw [KW.eraseList_append, KW.eraseList_filter]
        rfl

theorem bind_eq_none_of_posonly_kw (hf : sparesPosonlyKw cfg s = false) (hnd : s.args.Nodup) {p : String}
    (hp : p ∈ s.posonly) (hk : kw0.has p = true) : PS.bind cfg trig s args kw0 = none := by
  rw [PS.bind, Sig.params]
  cases h1 : PS.posLoop cfg s args 0 (s.posonly ++ s.args) kw0 false with
  | none => rfl
  | some r =>
    obtain ⟨sl, kw1, b⟩ := r
    have hb : b = true :=
      PS.posLoop_bad_of_posonly_kw cfg s args hf s.posonly s.args 0 kw0 false (Nat.zero_add _) hnd (Or.inr ⟨p, hp, hk⟩) _ h1
    rw [hb]; rfl

end PS

namespace Spec

theorem bind_eq_none_of_extra (hk : s.kwarg = false) {p : String} (hp : kw0.has p = true) (hn : p ∉ Spec.kwNames s) :
    Spec.bind s args kw0 = none := by
  have hne : (kw0.filter fun q => !(Spec.kwNames s).contains q.1).isEmpty = false := by
    obtain ⟨e, he, rfl⟩ := List.mem_map.mp ((KW.has_iff_mem_keys kw0 p).mp hp)
    exact List.isEmpty_eq_false_iff_exists_mem.mpr ⟨e, Spec.mem_extras.mpr ⟨he, hn⟩⟩
  unfold Spec.bind
  simp only [hk, hne, Bool.not_false, Bool.and_self, if_true]
  cases Spec.multiple s args kw0 <;> rfl

/-- under H1 of `C03_bind_partial` the loop's test on the extras (all reserved) is the reference's (none at all) -/
theorem extras_all_reserved (h : ∀ k ∈ kw0.keys, k ∉ Spec.kwNames s → k ∉ trig) :
    ((Spec.extras s kw0).keys.all fun k => trig.contains k) = (Spec.extras s kw0).isEmpty := by
  cases hx : Spec.extras s kw0 with
  | nil => rfl
  | cons e es =>
    have he := Spec.mem_extras.mp (hx ▸ List.mem_cons_self : e ∈ Spec.extras s kw0)
    have := h e.1 (List.mem_map.mpr ⟨e, he.1, rfl⟩) he.2
    simp [KW.keys, this]


end Spec
end
end PsModel.C03
