import PsModel.Model.C14
import PsModel.Spec.C14
import PsModel.Lemmas.C13
/-! the atomic state changes of the C14 machine (`LMove`, `Move`): which of them `step` takes under which guard
(`step_move`), and that the moves of one task touch no other task (`LMove.frame`).  Before them: facts about the
callback table, and the facts about the C13 steps that the C14 proofs use -/
namespace PsModel.C14
open PsModel.C13 (Task upd upd_same upd_other upd_apply MapsInv not_true_false)

variable {κ : Type}

theorem ensureEntry_other (cb : Task → Option (List (Cb × Args))) (t x : Task) (h : x ≠ t) :
    ensureEntry cb t x = cb x := by
  unfold ensureEntry
  cases cb t with
  | some _ => rfl
  | none => exact upd_other _ _ _ _ h

theorem ensureEntry_same (cb : Task → Option (List (Cb × Args))) (t : Task) : ensureEntry cb t t ≠ none := by
  unfold ensureEntry
  cases h : cb t with
  | some l => simp [h]
  | none => simp

theorem ensureIf_other (b : Bool) (cb : Task → Option (List (Cb × Args))) (t x : Task) (h : x ≠ t) :
    (if b then ensureEntry cb t else cb) x = cb x := by
  cases b with
  | false => rfl
  | true => exact ensureEntry_other cb t x h

theorem ensureIf_keys (b : Bool) (cb : Task → Option (List (Cb × Args))) (t : Task)
    (h : ∀ l, cb t = some l → (l.map (·.1)).Nodup) (l : List (Cb × Args))
    (e : (if b then ensureEntry cb t else cb) t = some l) : (l.map (·.1)).Nodup := by
  cases b with
  | false => exact h l e
  | true =>
    change ensureEntry cb t t = some l at e
    unfold ensureEntry at e
    cases hc : cb t with
    | some l0 => rw [hc] at e; simp only [hc] at e; cases e; exact h _ hc
    | none => rw [hc] at e; simp only [upd_same] at e; cases e; simp

theorem keys_setCb (l : List (Cb × Args)) (c : Cb) (a : Args) :
    (setCb l c a).map (·.1) = if c ∈ l.map (·.1) then l.map (·.1) else l.map (·.1) ++ [c] := by
  induction l with
  | nil => simp [setCb]
  | cons p l ih =>
    obtain ⟨c', a'⟩ := p
    simp only [setCb]
    by_cases h : c' = c
    · subst h; simp
    · have h' : ¬ c = c' := fun e => h e.symm
      simp only [h, if_false, List.map_cons, ih, List.mem_cons, h', false_or]
      split <;> simp

theorem nodup_setCb (l : List (Cb × Args)) (c : Cb) (a : Args) (h : (l.map (·.1)).Nodup) :
    ((setCb l c a).map (·.1)).Nodup := by
  rw [keys_setCb]
  split
  · exact h
  · rename_i hc
    rw [List.nodup_append]
    refine ⟨h, by simp, ?_⟩
    intro x hx y hy
    simp only [List.mem_singleton] at hy
    subst hy
    intro e; subst e; exact hc hx

theorem mem_setCb (l : List (Cb × Args)) (c : Cb) (a : Args) : (c, a) ∈ setCb l c a := by
  induction l with
  | nil => simp [setCb]
  | cons p l ih =>
    obtain ⟨c', x⟩ := p
    simp only [setCb]
    split
    · simp
    · exact List.mem_cons_of_mem _ ih

theorem setCb_setCb (l : List (Cb × Args)) (c : Cb) (a a' : Args) : setCb (setCb l c a) c a' = setCb l c a' := by
  induction l with
  | nil => simp [setCb]
  | cons p l ih =>
    obtain ⟨c', x⟩ := p
    simp only [setCb]
    by_cases e : c' = c
    · simp [e, setCb]
    · simp [e, setCb, ih]

theorem nodup_delCb (l : List (Cb × Args)) (c : Cb) (h : (l.map (·.1)).Nodup) :
    ((delCb l c).map (·.1)).Nodup :=
  h.sublist (List.Sublist.map _ List.filter_sublist)

theorem not_mem_delCb (l : List (Cb × Args)) (c : Cb) : c ∉ (delCb l c).map (·.1) := by
  unfold delCb
  intro h
  obtain ⟨p, hp, e⟩ := List.mem_map.1 h
  have := (List.mem_filter.1 hp).2
  simp [e] at this

theorem ranOf_append (s : St κ) (t x : Task) (c : Cb) (a : Args) (s' : St κ) (h : s'.ran = s.ran ++ [(t, c, a)]) :
    ranOf s' x = if x = t then ranOf s x ++ [(c, a)] else ranOf s x := by
  unfold ranOf
  rw [h, List.filter_append, List.map_append]
  by_cases e : x = t
  · subst e; simp
  · have : ¬ t = x := fun e' => e e'.symm
    simp [e, this]

theorem noteTouch_other (s : St κ) (t x : Task) (h : x ≠ t) : noteTouch s t x = s.touched x := by
  unfold noteTouch; split
  · exact upd_other _ _ _ _ h
  · rfl

theorem noteTouch_same (s : St κ) (t : Task) (h : noteTouch s t t = false) :
    s.phase t ≠ .finalizing ∧ s.touched t = false := by
  unfold noteTouch at h
  split at h
  · simp at h
  · rename_i hp; exact ⟨hp, h⟩

theorem noteTouch_mono (s : St κ) (t x : Task) (h : s.touched x = true) : noteTouch s t x = true := by
  unfold noteTouch; split
  · simp only [upd_apply]; split <;> simp [h]
  · exact h

/-- the C13 fields of task `x` agree (all but `foreign` and the ghosts `selfEnq`, `claimed`: C14 reads none of them) -/
structure SameU (u u' : C13.St κ) (x : Task) : Prop where
  ours : u'.ours x = u.ours x
  live : u'.live x = u.live x
  started : u'.started x = u.started x
  names : u'.names x = u.names x
  entry : u'.entry x = u.entry x
  cancelReq : u'.cancelReq x = u.cancelReq x
  parked : u'.parked x = u.parked x

/-- everything the state holds about task `x` agrees -/
structure SameAt (s s' : St κ) (x : Task) : Prop where
  u : SameU s.u s'.u x
  phase : s'.phase x = s.phase x
  cb : s'.cb x = s.cb x
  hctx : s'.hctx x = s.hctx x
  withCtx : s'.withCtx x = s.withCtx x
  outcome : s'.outcome x = s.outcome x
  idx : s'.idx x = s.idx x
  iterSize : s'.iterSize x = s.iterSize x
  loopDone : s'.loopDone x = s.loopDone x
  inCb : s'.inCb x = s.inCb x
  result : s'.result x = s.result x
  ran : ranOf s' x = ranOf s x
  atEnd : s'.atEnd x = s.atEnd x
  touched : s'.touched x = s.touched x
  leaked : s'.leaked x = s.leaked x
  cbRaised : s'.cbRaised x = s.cbRaised x
  stillborn : s'.stillborn x = s.stillborn x
  bailed : s'.bailed x = s.bailed x

theorem SameU.refl (u : C13.St κ) (x : Task) : SameU u u x := ⟨rfl, rfl, rfl, rfl, rfl, rfl, rfl⟩

theorem SameAt.refl (s : St κ) (x : Task) : SameAt s s x :=
  ⟨SameU.refl s.u x, rfl, rfl, rfl, rfl, rfl, rfl, rfl, rfl, rfl, rfl, rfl, rfl, rfl, rfl, rfl, rfl, rfl⟩

/-- two C13 states that agree in the registries and in the delivered cancels: they may differ in the reaper's state
(`reaperQ`, `reaping`), in who is parked, in `foreign` and in ghost fields -/
structure SameReg (u v : C13.St κ) : Prop where
  owner : v.owner = u.owner
  names : v.names = u.names
  entry : v.entry = u.entry
  live : v.live = u.live
  started : v.started = u.started
  ours : v.ours = u.ours
  cancelReq : v.cancelReq = u.cancelReq

theorem SameReg.refl (u : C13.St κ) : SameReg u u := ⟨rfl, rfl, rfl, rfl, rfl, rfl, rfl⟩

theorem mapsInv_congr {u u' : C13.St κ} (h : MapsInv u) (e1 : u'.owner = u.owner) (e2 : u'.names = u.names)
    (e3 : u'.entry = u.entry) : MapsInv u' := by
  obtain ⟨a, b, c⟩ := h
  exact ⟨by rw [e1, e2, e3]; exact a, by rw [e1, e2]; exact b, by rw [e2]; exact c⟩

theorem spawn_other (u : C13.St κ) (t x : Task) (fg : Bool) (hx : x ≠ t) : SameU u (C13.spawnStep u t fg) x := by
  unfold C13.spawnStep
  cases u.started t with
  | true => exact SameU.refl u x
  | false => exact ⟨upd_other _ _ _ _ hx, upd_other _ _ _ _ hx, upd_other _ _ _ _ hx, rfl, rfl, rfl, rfl⟩

theorem spawn_fresh (u : C13.St κ) (t : Task) (h : u.started t = false) :
    C13.spawnStep u t false = { u with started := upd u.started t true, live := upd u.live t true,
                                       ours := upd u.ours t true, foreign := upd u.foreign t false } := by
  unfold C13.spawnStep; simp [h]

theorem enqueue_reg (u : C13.St κ) (o : Task) : SameReg u (C13.enqueue u o) := by
  unfold C13.enqueue; exact ⟨rfl, rfl, rfl, rfl, rfl, rfl, rfl⟩

theorem park_reg (u : C13.St κ) (t : Task) : SameReg u (C13.park u t) := by
  unfold C13.park C13.enqueue; exact ⟨rfl, rfl, rfl, rfl, rfl, rfl, rfl⟩

variable [DecidableEq κ]

theorem exit_other (u : C13.St κ) (t x : Task) (hx : x ≠ t) : SameU u (C13.exitStep u t) x := by
  unfold C13.exitStep
  cases u.live t with
  | false => exact SameU.refl u x
  | true =>
    cases u.entry t with
    | false => exact ⟨upd_other _ _ _ _ hx, upd_other _ _ _ _ hx, rfl, rfl, rfl, rfl, upd_other _ _ _ _ hx⟩
    | true =>
      cases C13.delErr u.owner (u.names t) with
      | true => exact ⟨rfl, upd_other _ _ _ _ hx, rfl, rfl, rfl, rfl, rfl⟩
      | false =>
        exact ⟨upd_other _ _ _ _ hx, upd_other _ _ _ _ hx, rfl, upd_other _ _ _ _ hx, upd_other _ _ _ _ hx, rfl,
               upd_other _ _ _ _ hx⟩

theorem mapsInv_exit (u : C13.St κ) (t : Task) (h : MapsInv u) : MapsInv (C13.exitStep u t) := by
  by_cases hnl : ¬ u.live t = true
  · rw [C13.exit_dead u t hnl]; exact h
  have hl : u.live t = true := Classical.not_not.1 hnl
  rw [C13.exit_eq u t h hl]
  obtain ⟨h1, h2, h3⟩ := h
  refine ⟨?_, ?_, ?_⟩
  · intro k x hx
    simp only [] at hx ⊢
    split at hx
    · cases hx
    · rename_i hk
      obtain ⟨a, d⟩ := h1 k x hx
      have hxt : x ≠ t := by intro e; subst e; exact hk a
      simp only [upd_other _ _ _ _ hxt]
      exact ⟨a, d⟩
  · intro k x hx
    simp only [] at hx ⊢
    by_cases hxt : x = t
    · subst hxt; simp at hx
    · simp only [upd_other _ _ _ _ hxt] at hx
      have hk : k ∉ u.names t := by
        intro hk
        have e1 := h2 k t hk
        have e2 := h2 k x hx
        rw [e1] at e2; cases e2; exact hxt rfl
      simp only [hk, if_false]
      exact h2 k x hx
  · intro x
    simp only [upd_apply]; split
    · exact List.nodup_nil
    · exact h3 x

theorem claim_facts (u : C13.St κ) (t : Task) (k : κ) (h : MapsInv u) :
    MapsInv (C13.claim u t k) ∧ (C13.claim u t k).live = u.live ∧ (C13.claim u t k).started = u.started ∧
    (C13.claim u t k).ours = u.ours ∧ (∀ x, (C13.claim u t k).entry x = true → u.entry x = true ∨ x = t) := by
  by_cases hno : ¬ u.ours t = true
  · rw [C13.claim_not_ours u t k hno]; exact ⟨h, rfl, rfl, rfl, fun _ hx => Or.inl hx⟩
  have ho : u.ours t = true := Classical.not_not.1 hno
  have hmem := fun x m => C13.mem_claim_names u t x k m h ho
  have hnd := fun x => C13.nodup_claim_names u t x k h ho
  have hf := C13.claim_eq u t k ho
  have hown : (C13.claim u t k).owner = upd u.owner k (some t) := by rw [hf]
  have hent : (C13.claim u t k).entry = upd u.entry t true := by rw [hf]
  refine ⟨?_, by rw [hf], by rw [hf], by rw [hf], ?_⟩
  · obtain ⟨a, b, c⟩ := h
    refine ⟨?_, ?_, hnd⟩
    · intro m x hx
      rw [hown] at hx
      rw [hmem, hent, C13.upd_true_iff]
      by_cases hm : m = k
      · subst hm
        rw [upd_same] at hx; cases hx
        exact ⟨Or.inl ⟨rfl, rfl⟩, Or.inl rfl⟩
      · rw [upd_other _ _ _ _ hm] at hx
        obtain ⟨p, q⟩ := a m x hx
        exact ⟨Or.inr ⟨hm, p⟩, Or.inr q⟩
    · intro m x hx
      rw [hown]
      rcases (hmem x m).1 hx with ⟨e1, e2⟩ | ⟨hm, hx⟩
      · rw [e1, e2]; exact upd_same _ _ _
      · rw [upd_other _ _ _ _ hm]; exact b m x hx
  · intro x hx
    rw [hent] at hx
    exact (C13.upd_true_iff.1 hx).symm

/-- the reaper delivers a cancel to running tasks only -/
theorem reapCfg_cancelReq (aw : Bool) (u : C13.St κ) (x : Task) (h : (C13.reapStepCfg aw u).cancelReq x = true) :
    u.cancelReq x = true ∨ u.live x = true := by
  rcases C13.reapCfg_cases aw u with e | ⟨hd, q, _, e⟩ <;> rw [e] at h
  · exact Or.inl h
  · by_cases hl : u.live hd = true
    · rw [if_pos hl] at h
      rcases C13.upd_true_iff.1 h with e | h
      · exact Or.inr (e ▸ hl)
      · exact Or.inl h
    · rw [if_neg hl] at h; exact Or.inl h

/-- `task.unique`, apart from queueing and parking somebody, is at most one claim -/
theorem unique_shape (u : C13.St κ) (t : Task) (k : κ) (km : Bool) :
    ∃ v : C13.St κ, SameReg u v ∧ (C13.uniqueStep u t k km = v ∨ C13.uniqueStep u t k km = C13.claim v t k) := by
  rcases C13.uniqueStep_cases u t k km with ⟨_, e⟩ | ⟨_, _, e⟩ | ⟨_, _, e⟩
  · exact ⟨u, SameReg.refl u, Or.inl e⟩
  · exact ⟨C13.park u t, park_reg u t, Or.inl e⟩
  · refine ⟨C13.afterKill u t k, ?_, Or.inr e⟩
    obtain ⟨q, eq⟩ := C13.afterKill_eq u t k
    rw [eq]; exact ⟨rfl, rfl, rfl, rfl, rfl, rfl, rfl⟩

theorem finish_frame (s : St κ) (t x : Task) (r : Res) (hx : x ≠ t) : SameAt s (finish s t r) x :=
  { SameAt.refl s x with
    u := exit_other s.u t x hx, hctx := upd_other _ _ _ _ hx, cb := upd_other _ _ _ _ hx
    phase := upd_other _ _ _ _ hx, result := upd_other _ _ _ _ hx }

/-- the state changes that concern task `t` alone – its life cycle and its callback table –, each with the part of
its guard that the invariants rest on.  `o` in `create` is `our_tasks` afterwards (`t` added or not, by the flag).  An
exception `r` leaving the callback loop (`bail`) is `bailClean` or `abort`; `ic` there: the callback that was cancelled
has ended, or none was running. -/
inductive LMove (cfg : Cfg) (s : St κ) (t : Task) : St κ → Prop
  | stay : LMove cfg s t s
  | create (wc pre : Bool) (o : Task → Bool) : s.phase t = .none → (∀ x, x ≠ t → o x = s.u.ours x) →
      LMove cfg s t { s with phase := upd s.phase t .created, withCtx := upd s.withCtx t wc,
                             cb := if pre then ensureEntry s.cb t else s.cb, u := { s.u with ours := o } }
  | setCb (l l' : List (Cb × Args)) : s.cb t = some l → ((l.map (·.1)).Nodup → (l'.map (·.1)).Nodup) →
      LMove cfg s t { s with cb := upd s.cb t (some l'), touched := noteTouch s t }
  | kill : s.phase t = .created → s.u.cancelReq t = true → LMove cfg s t (killUnstarted s t)
  | start : s.phase t = .created →
      LMove cfg s t { s with phase := upd s.phase t .running, u := C13.spawnStep s.u t false,
                             cb := if s.withCtx t then ensureEntry s.cb t else s.cb }
  | storeCtx : active s t = true → LMove cfg s t { s with hctx := upd s.hctx t true }
  | endBody (oc : Outcome) : s.phase t = .running →
      LMove cfg s t { s with phase := upd s.phase t .finalizing, outcome := upd s.outcome t (some oc),
                             idx := upd s.idx t 0, iterSize := upd s.iterSize t (cbList s t).length,
                             atEnd := upd s.atEnd t (cbList s t),
                             u := { s.u with parked := upd s.u.parked t false } }
  | cbBegin (c : Cb) (a : Args) : s.phase t = .finalizing → (iterList cfg s t)[s.idx t]? = some (c, a) →
      LMove cfg s t { s with ran := s.ran ++ [(t, c, a)], idx := upd s.idx t (s.idx t + 1),
                             inCb := upd s.inCb t true }
  | cbOk : LMove cfg s t { s with inCb := upd s.inCb t false }
  | cbRaiseOn : s.phase t = .finalizing → cfg.cbContinues = true →
      LMove cfg s t { s with inCb := upd s.inCb t false, cbRaised := upd s.cbRaised t true }
  | cbRaiseBreak : s.phase t = .finalizing → cfg.cbContinues = false →
      LMove cfg s t { s with inCb := upd s.inCb t false, loopDone := upd s.loopDone t true,
                             cbRaised := upd s.cbRaised t true }
  | bailClean (r : Res) (ic : Task → Bool) : s.phase t = .finalizing → (∀ x, x ≠ t → ic x = s.inCb x) →
      (r = .cancelled ∨ (r = .error ∧ resized cfg s t = true)) →
      LMove cfg s t (finish { s with inCb := ic, bailed := upd s.bailed t (some r) } t r)
  | abort (r : Res) (ic : Task → Bool) : cfg.cleanupAlways = false → s.phase t = .finalizing →
      (∀ x, x ≠ t → ic x = s.inCb x) → (r = .cancelled ∨ (r = .error ∧ resized cfg s t = true)) →
      LMove cfg s t (abort { s with inCb := ic, bailed := upd s.bailed t (some r) } t r)
  | finish : s.phase t = .finalizing → loopPending cfg s t = false →
      LMove cfg s t (finish s t (resultOf (s.outcome t)))

/-- all state changes of the machine: those local to one task, those of the C13 state that leave the registries alone
(`quiet`: an error counted, somebody queued or parked), a claim of `task.unique`, and the reaper's -/
inductive Move (cfg : Cfg) (s : St κ) : St κ → Prop
  | stay : Move cfg s s
  | loc (t : Task) {s' : St κ} : LMove cfg s t s' → Move cfg s s'
  | quiet (u' : C13.St κ) (n : Nat) : SameReg s.u u' → Move cfg s { s with u := u', errs := n }
  | claim (v : C13.St κ) (t : Task) (k : κ) : SameReg s.u v → active s t = true →
      Move cfg s { s with u := C13.claim v t k }
  | mark (h : Task) (q : List Task) : cfg.reaperWaitsForStart = false → s.u.reaperQ = h :: q →
      Move cfg s { s with u := { s.u with reaperQ := q, cancelReq := upd s.u.cancelReq h true, reaping := none } }
  | reap : Move cfg s { s with u := C13.reapStepCfg (!cfg.reaperDetached) s.u }

theorem bail_move {cfg : Cfg} {s : St κ} {t : Task} (r : Res) (ic : Task → Bool) (hp : s.phase t = .finalizing)
    (hic : ∀ x, x ≠ t → ic x = s.inCb x) (hc : r = .cancelled ∨ (r = .error ∧ resized cfg s t = true)) :
    LMove cfg s t (bail cfg { s with inCb := ic } t r) := by
  unfold bail
  cases h : cfg.cleanupAlways with
  | true => exact .bailClean r ic hp hic hc
  | false => exact .abort r ic h hp hic hc

theorem start_move (cfg : Cfg) (s : St κ) (t : Task) : LMove cfg s t (startStep s t) := by
  unfold startStep
  by_cases hp : s.phase t = .created
  · rw [if_neg (not_not_intro hp)]
    by_cases hc : s.u.cancelReq t = true
    · rw [if_pos hc]; exact .kill hp hc
    · rw [if_neg hc]; exact .start hp
  · rw [if_pos hp]; exact .stay

theorem storeCtx_move (cfg : Cfg) (s : St κ) (t : Task) : LMove cfg s t (storeCtxStep s t) := by
  unfold storeCtxStep
  by_cases ha : active s t = true
  · rw [if_pos ha]; exact .storeCtx ha
  · rw [if_neg ha]; exact .stay

theorem endBody_move (cfg : Cfg) (s : St κ) (t : Task) (oc : Outcome) : LMove cfg s t (endBodyStep s t oc) := by
  unfold endBodyStep
  by_cases hp : s.phase t = .running
  · rw [if_neg (not_not_intro hp)]; exact .endBody oc hp
  · rw [if_pos hp]; exact .stay

theorem cbBegin_move (cfg : Cfg) (s : St κ) (t : Task) : LMove cfg s t (cbBeginStep cfg s t) := by
  unfold cbBeginStep
  by_cases hp : s.phase t = .finalizing
  · rw [if_neg (not_not_intro hp)]
    by_cases hi : s.inCb t = true
    · rw [if_pos hi]; exact .stay
    rw [if_neg hi]
    by_cases hl : s.loopDone t = true
    · rw [if_pos hl]; exact .stay
    rw [if_neg hl]
    by_cases hr : resized cfg s t = true
    · rw [if_pos hr]; exact bail_move .error s.inCb hp (fun _ _ => rfl) (Or.inr ⟨rfl, hr⟩)
    rw [if_neg hr]
    cases hget : (iterList cfg s t)[s.idx t]? with
    | none => exact .stay
    | some p => exact .cbBegin p.1 p.2 hp hget
  · rw [if_pos hp]; exact .stay

theorem cbEnd_move (cfg : Cfg) (s : St κ) (t : Task) (r : CbRes) : LMove cfg s t (cbEndStep cfg s t r) := by
  unfold cbEndStep
  by_cases hp : s.phase t = .finalizing
  · rw [if_neg (not_not_intro hp)]
    cases hi : s.inCb t with
    | false => exact .stay
    | true =>
      cases r with
      | ok => exact .cbOk
      | raises =>
        cases hc : cfg.cbContinues with
        | true => exact .cbRaiseOn hp hc
        | false => exact .cbRaiseBreak hp hc
      | cancelled => exact bail_move .cancelled _ hp (fun x hx => upd_other _ _ _ _ hx) (Or.inl rfl)
  · rw [if_pos hp]; exact .stay

theorem cleanup_move (cfg : Cfg) (s : St κ) (t : Task) : LMove cfg s t (cleanupStep cfg s t) := by
  unfold cleanupStep
  by_cases hp : s.phase t = .finalizing
  · rw [if_neg (not_not_intro hp)]
    by_cases hi : s.inCb t = true
    · rw [if_pos hi]; exact .stay
    rw [if_neg hi]
    by_cases hl : loopPending cfg s t = true
    · rw [if_pos hl]; exact .stay
    rw [if_neg hl]
    by_cases hz : sizeChanged cfg s t = true
    · rw [if_pos hz]
      unfold sizeChanged at hz
      exact bail_move .error s.inCb hp (fun _ _ => rfl) (Or.inr ⟨rfl, (Bool.and_eq_true _ _ ▸ hz).2⟩)
    · rw [if_neg hz]; exact .finish hp (not_true_false hl)
  · rw [if_pos hp]; exact .stay

theorem lifecycle_move (cfg : Cfg) (s : St κ) (op : Op κ) (t : Task) (h : lifecycleOf op = some t) :
    LMove cfg s t (step cfg s op) := by
  cases op with
  | start _ => cases h; exact start_move cfg s t
  | storeCtx _ => cases h; exact storeCtx_move cfg s t
  | endBody _ oc => cases h; exact endBody_move cfg s t oc
  | cbBegin _ => cases h; exact cbBegin_move cfg s t
  | cbEnd _ r => cases h; exact cbEnd_move cfg s t r
  | cleanup _ => cases h; exact cleanup_move cfg s t
  | _ => cases h

theorem step_move (cfg : Cfg) (s : St κ) (op : Op κ) : Move cfg s (step cfg s op) := by
  cases hl : lifecycleOf op with
  | some t => exact .loc t (lifecycle_move cfg s op t hl)
  | none =>
  cases op with
  | create t wc pre =>
    show Move cfg s (createStep cfg s t wc pre)
    unfold createStep
    by_cases hp : s.phase t = .none
    · rw [if_neg (not_not_intro hp)]
      cases cfg.oursAtCreate with
      | true => exact .loc t (.create wc pre _ hp fun x hx => upd_other _ _ _ _ hx)
      | false => exact .loc t (.create wc pre s.u.ours hp fun _ _ => rfl)
    · rw [if_pos hp]; exact .stay
  | addCb a t c args =>
    show Move cfg s (addCbStep s a t c args)
    unfold addCbStep
    cases active s a with
    | false => exact .stay
    | true =>
      cases hc : s.cb t with
      | none =>
        show Move cfg s { s with errs := s.errs + 1 }
        exact .quiet s.u _ (SameReg.refl _)
      | some l => exact .loc t (.setCb l _ hc (nodup_setCb l c args))
  | removeCb a t c =>
    show Move cfg s (removeCbStep s a t c)
    unfold removeCbStep
    cases active s a with
    | false => exact .stay
    | true =>
      cases hc : s.cb t with
      | none =>
        show Move cfg s { s with errs := s.errs + 1 }
        exact .quiet s.u _ (SameReg.refl _)
      | some l => exact .loc t (.setCb l _ hc (nodup_delCb l c))
  | cancel a tg =>
    show Move cfg s (cancelStep s a tg)
    unfold cancelStep
    cases active s a with
    | false => exact .stay
    | true =>
      show Move cfg s (if (!s.u.ours (tg.getD a)) = true then _ else _)
      cases s.u.ours (tg.getD a) with
      | false =>
        show Move cfg s { s with errs := s.errs + 1 }
        exact .quiet s.u _ (SameReg.refl _)
      | true =>
        cases tg with
        | none =>
          show Move cfg s { s with u := C13.park s.u a }
          exact .quiet _ s.errs (park_reg s.u a)
        | some x =>
          show Move cfg s { s with u := C13.enqueue s.u x }
          exact .quiet _ s.errs (enqueue_reg s.u x)
  | unique t k km =>
    show Move cfg s (uniqueStep s t k km)
    unfold uniqueStep
    by_cases ha : active s t = true
    · rw [if_pos ha]
      obtain ⟨v, hv, e | e⟩ := unique_shape s.u t k km <;> rw [e]
      · exact .quiet v s.errs hv
      · exact .claim v t k hv ha
    · rw [if_neg ha]; exact .stay
  | reap =>
    show Move cfg s (reapStep cfg s)
    unfold reapStep
    cases headUnstarted s with
    | false => exact .reap
    | true =>
      cases hw : cfg.reaperWaitsForStart with
      | true => exact .stay
      | false =>
        show Move cfg s (markUnstarted s)
        unfold markUnstarted
        cases hq : s.u.reaperQ with
        | nil => exact .stay
        | cons h q => exact .mark h q hw hq
  | _ => cases hl

namespace LMove

theorem frame {cfg : Cfg} {s s' : St κ} {t x : Task} (m : LMove cfg s t s') (hx : x ≠ t) : SameAt s s' x := by
  have o : ∀ {α : Type} (f : Task → α) (v : α), upd f t v x = f x := fun f v => upd_other f t x v hx
  cases m with
  | stay => exact SameAt.refl s x
  | create wc pre ours _ ho =>
    exact { SameAt.refl s x with
            phase := o _ _, withCtx := o _ _, cb := ensureIf_other _ _ _ _ hx
            u := { SameU.refl s.u x with ours := ho x hx } }
  | setCb l l' => exact { SameAt.refl s x with cb := o _ _, touched := noteTouch_other s t x hx }
  | kill =>
    exact { SameAt.refl s x with
            phase := o _ _, result := o _ _, leaked := o _ _, stillborn := o _ _, bailed := o _ _, atEnd := o _ _
            idx := o _ _, u := { SameU.refl s.u x with ours := o _ _ } }
  | start =>
    exact { SameAt.refl s x with phase := o _ _, u := spawn_other _ _ _ _ hx, cb := ensureIf_other _ _ _ _ hx }
  | storeCtx => exact { SameAt.refl s x with hctx := o _ _ }
  | endBody oc =>
    exact { SameAt.refl s x with
            phase := o _ _, outcome := o _ _, idx := o _ _, iterSize := o _ _, atEnd := o _ _
            u := { SameU.refl s.u x with parked := o _ _ } }
  | cbBegin c a =>
    exact { SameAt.refl s x with
            idx := o _ _, inCb := o _ _, ran := by rw [ranOf_append s t x c a _ rfl, if_neg hx] }
  | cbOk => exact { SameAt.refl s x with inCb := o _ _ }
  | cbRaiseOn => exact { SameAt.refl s x with inCb := o _ _, cbRaised := o _ _ }
  | cbRaiseBreak => exact { SameAt.refl s x with inCb := o _ _, loopDone := o _ _, cbRaised := o _ _ }
  | bailClean r ic _ hic =>
    have f := finish_frame { s with inCb := ic, bailed := upd s.bailed t (some r) } t x r hx
    exact { f with inCb := f.inCb.trans (hic x hx), bailed := f.bailed.trans (o _ _) }
  | abort r ic _ _ hic =>
    exact { SameAt.refl s x with
            inCb := hic x hx, bailed := o _ _, phase := o _ _, result := o _ _, leaked := o _ _
            u := { SameU.refl s.u x with live := o _ _ } }
  | finish => exact finish_frame s t x _ hx

theorem queue {cfg : Cfg} {s s' : St κ} {t : Task} (m : LMove cfg s t s') : s'.u.reaperQ = s.u.reaperQ := by
  cases m with
  | start =>
    show (C13.spawnStep s.u t false).reaperQ = _
    unfold C13.spawnStep; split <;> rfl
  | bailClean => exact (C13.exit_queue _ t).1
  | finish => exact (C13.exit_queue _ t).1
  | _ => rfl

end LMove

end PsModel.C14
