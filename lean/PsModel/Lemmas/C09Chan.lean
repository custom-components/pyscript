import PsModel.Lemmas.C09World
/-! the notify channels (`Event`, `Mqtt`, `Webhook`) and the service bookkeeping of the world of generations:
after every operation each channel's table / Home Assistant registrations are exactly what the started generations
declare, and `Function.service_cnt` / `Function.service2global_ctx` count and name exactly the started declarers -/
namespace PsModel.C09
open PsModel.C09.Spec

theorem demand_nil (keys : Gen → List String) (k : String) : demand keys [] k = 0 := rfl

theorem demand_cons (keys : Gen → List String) (g : Gen) (gens : List Gen) (k : String) :
    demand keys (g :: gens) k = (keys g).count k + demand keys gens k := by
  simp only [demand, List.map_cons, List.sum_cons]

theorem demand_append_one (keys : Gen → List String) (gens : List Gen) (g : Gen) (k : String) :
    demand keys (gens ++ [g]) k = demand keys gens k + (keys g).count k := by
  simp only [demand, List.map_append, List.map_cons, List.map_nil, List.sum_append, List.sum_cons, List.sum_nil,
    Nat.add_zero]

theorem demand_remove (keys : Gen → List String) (k : String) (gens : List Gen) (g : Gen) (hg : g ∈ gens)
    (hnd : (gens.map (·.id)).Nodup) :
    demand keys gens k = (keys g).count k + demand keys (gens.filter (fun x => !(x.id == g.id))) k := by
  induction gens with
  | nil => cases hg
  | cons x xs ih =>
    rw [List.map_cons, List.nodup_cons] at hnd
    rcases List.mem_cons.mp hg with rfl | hg'
    · -- no other generation carries the identifier
      have hrest : xs.filter (fun x => !(x.id == g.id)) = xs := List.filter_eq_self.mpr fun y hy => by
        have : y.id ≠ g.id := fun e => hnd.1 (e ▸ List.mem_map_of_mem (f := (·.id)) hy)
        simpa using this
      rw [List.filter_cons_of_neg (by simp), hrest, demand_cons]
    · have hne : x.id ≠ g.id := fun e => hnd.1 (e ▸ List.mem_map_of_mem (f := (·.id)) hg')
      rw [List.filter_cons_of_pos (by simpa using hne), demand_cons, demand_cons, ih hg' hnd.2]
      exact Nat.add_left_comm ..

theorem demand_pos_iff (keys : Gen → List String) (k : String) (gens : List Gen) :
    0 < demand keys gens k ↔ ∃ g ∈ gens, k ∈ keys g := by
  induction gens with
  | nil => simp [demand]
  | cons x xs ih =>
    rw [demand_cons, Nat.add_pos_iff_pos_or_pos, ih, List.count_pos_iff]
    simp only [List.mem_cons, exists_eq_or_imp]

theorem demand_eq_zero_iff (keys : Gen → List String) (k : String) (gens : List Gen) :
    demand keys gens k = 0 ↔ ∀ g ∈ gens, k ∉ keys g := by
  rw [← Nat.le_zero, ← Nat.not_lt, demand_pos_iff]
  exact ⟨fun h g hg hk => h ⟨g, hg, hk⟩, fun h ⟨g, hg, hk⟩ => h g hg hk⟩

structure ChanInv (sub : Sub) (keys : Gen → List String) (gens : List Gen) (s : EvSt) : Prop where
  /-- legacy: the table is the union of what the generations declare, one Home Assistant registration per key in use -/
  legacy : sub = .legacy → (∀ key q, q ∈ evSubs s key ↔ ChanTables keys gens key q) ∧ EvOK s
  /-- new: the tables stay empty, one Home Assistant registration per started decorator -/
  new : sub = .new → s.tbl = [] ∧ ∀ key, busCount s.bus key = demand keys gens key

theorem chanSub_inv {sub : Sub} {keys : Gen → List String} {gens : List Gen} {s : EvSt}
    (h : ChanInv sub keys gens s) (g : Gen) : ChanInv sub keys (gens ++ [g]) (chanSub sub g.id (keys g) s) := by
  constructor
  · rintro rfl
    obtain ⟨ht, hok⟩ := h.legacy rfl
    refine ⟨fun key q => ?_, foldl_inv _ _ hok fun s h kv _ => evAdd_ok h _ _⟩
    rw [mem_chanSub_legacy, ht]
    exact (union_append_one ..).symm
  · rintro rfl
    obtain ⟨ht, hc⟩ := h.new rfl
    refine ⟨ht, fun key => ?_⟩
    show busCount ((keys g).foldl busInc s.bus) key = _
    rw [foldl_busInc_count, hc, demand_append_one]

theorem chanUnsub_inv {sub : Sub} {keys : Gen → List String} {gens : List Gen} {s : EvSt}
    (h : ChanInv sub keys gens s) {g : Gen} (hg : g ∈ gens) (hnd : (gens.map (·.id)).Nodup) :
    ChanInv sub keys (gens.filter (fun x => !(x.id == g.id))) (chanUnsub sub g.id (keys g) s) := by
  constructor
  · rintro rfl
    obtain ⟨ht, hok⟩ := h.legacy rfl
    refine ⟨fun key q => ?_, foldl_inv _ _ hok fun s h kv _ => evDel_ok h _ _⟩
    rw [mem_chanUnsub_legacy, ht]
    exact (union_remove (W := fun g q => WantsKey keys g key q) (fun _ _ => queue_id) hnd hg q).symm
  · rintro rfl
    obtain ⟨ht, hc⟩ := h.new rfl
    refine ⟨ht, fun key => ?_⟩
    show busCount ((keys g).foldl busDec s.bus) key = _
    rw [foldl_busDec_count, hc, demand_remove keys key gens g hg hnd, Nat.add_sub_cancel_left]

theorem chanInv_empty (sub : Sub) (keys : Gen → List String) : ChanInv sub keys [] { tbl := [], bus := [] } :=
  ⟨fun _ => ⟨fun _ _ => ⟨fun hq => absurd hq List.not_mem_nil, fun ⟨_, hg, _⟩ => absurd hg List.not_mem_nil⟩, evOK_empty⟩,
   fun _ => ⟨rfl, fun _ => rfl⟩⟩

theorem chanInv_baseline {sub : Sub} {keys : Gen → List String} {s : EvSt} (h : ChanInv sub keys [] s) (key : String) :
    evSubs s key = [] ∧ busCount s.bus key = 0 := by
  cases sub with
  | legacy =>
    obtain ⟨ht, hok⟩ := h.legacy rfl
    have hnil : evSubs s key = [] := List.eq_nil_iff_forall_not_mem.mpr fun q hq => by
      obtain ⟨g, hg, _⟩ := (ht key q).mp hq
      exact absurd hg List.not_mem_nil
    exact ⟨hnil, by rw [evOK_count hok, hnil]; rfl⟩
  | new =>
    obtain ⟨ht, hc⟩ := h.new rfl
    exact ⟨by rw [evSubs, ht]; rfl, by rw [hc]; rfl⟩

structure XInv (sub : Sub) (w : World) : Prop where
  evc : ChanInv sub (·.events) w.started w.ev
  mqc : ChanInv sub (·.mqtts) w.started w.mq
  whc : ChanInv sub (·.hooks) w.started w.wh
  /-- new subsystem: Home Assistant's webhook registry is a dictionary – at most one registration per id -/
  hookx : sub = .new → ∀ key, demand (·.hooks) w.started key ≤ 1
  /-- `service_cnt[n]` = number of `@service(n)` declarations of the started generations -/
  cnt : ∀ n, svcCount w.svc n = demand (·.services) w.started n
  /-- a name has an owner exactly while some started generation declares it -/
  free : ∀ n, ownerOf w.owner n = none ↔ demand (·.services) w.started n = 0
  /-- every started declarer lives in the owning context -/
  own : ∀ g ∈ w.started, ∀ n ∈ g.services, ownerOf w.owner n = some g.ctx

theorem XInv.withRefs {sub : Sub} {w : World} (h : XInv sub w) (b : List (String × String × Nat))
    (s : List (Nat × String × Nat)) : XInv sub { w with binds := b, slots := s } :=
  ⟨h.evc, h.mqc, h.whc, h.hookx, h.cnt, h.free, h.own⟩

theorem XInv.rewire {sub : Sub} {w w' : World} (h : XInv sub w) (hr : Rewired w w') : XInv sub w' := by
  obtain ⟨b, s, rfl, -, -⟩ := hr
  exact h.withRefs b s

theorem XInv.baseline {sub : Sub} {w : World} (h : XInv sub w) (hst : w.started = []) (key : String) :
    (evSubs w.ev key = [] ∧ busCount w.ev.bus key = 0) ∧ (evSubs w.mq key = [] ∧ busCount w.mq.bus key = 0) ∧
    (evSubs w.wh key = [] ∧ busCount w.wh.bus key = 0) ∧ svcCount w.svc key = 0 ∧ ownerOf w.owner key = none :=
  ⟨chanInv_baseline (hst ▸ h.evc) key, chanInv_baseline (hst ▸ h.mqc) key, chanInv_baseline (hst ▸ h.whc) key,
   (h.cnt key).trans (by rw [hst]; rfl), (h.free key).mpr (by rw [hst]; rfl)⟩

theorem emptyWorld_xinv (sub : Sub) : XInv sub emptyWorld :=
  ⟨chanInv_empty sub _, chanInv_empty sub _, chanInv_empty sub _, fun _ _ => Nat.zero_le 1, fun _ => rfl,
   fun _ => ⟨fun _ => rfl, fun _ => rfl⟩, fun _ hg => absurd hg List.not_mem_nil⟩

theorem startGen_xinv {sub : Sub} {w : World} (h : XInv sub w) (g : Gen)
    (hok : ∀ n ∈ g.services, ownerOf w.owner n = none ∨ ownerOf w.owner n = some g.ctx)
    (hx : sub = .new → ∀ key, demand (·.hooks) w.started key + g.hooks.count key ≤ 1) :
    XInv sub (startGen sub g { w with next := w.next + 1 }) := by
  have hown : ∀ n, ownerOf (startGen sub g { w with next := w.next + 1 }).owner n =
      if n ∈ g.services ∧ ownerOf w.owner n = none then some g.ctx else ownerOf w.owner n :=
    fun n => ownerOf_claim_fold g.ctx n g.services w.owner
  refine ⟨chanSub_inv h.evc g, chanSub_inv h.mqc g, chanSub_inv h.whc g, fun hs key => ?_, fun n => ?_, fun n => ?_,
    fun g' hg' n hn => ?_⟩
  · show demand (·.hooks) (w.started ++ [g]) key ≤ 1
    rw [demand_append_one]
    exact hx hs key
  · show busCount (g.services.foldl busInc w.svc) n = demand (·.services) (w.started ++ [g]) n
    rw [foldl_busInc_count, demand_append_one, ← h.cnt]; rfl
  · show _ ↔ demand (·.services) (w.started ++ [g]) n = 0
    rw [hown, demand_append_one, Nat.add_eq_zero_iff, ← h.free n, List.count_eq_zero]
    by_cases hn : n ∈ g.services
    · cases ho : ownerOf w.owner n <;> simp [hn]
    · simp [hn]
  · rw [hown]
    rcases List.mem_append.mp hg' with hg' | hg'
    · rw [h.own g' hg' n hn]; simp
    · rw [List.mem_singleton.mp hg'] at hn ⊢
      rcases hok n hn with ho | ho <;> simp [hn, ho]

theorem stopGen_xinv {cont : Bool} {sub : Sub} {w : World} (h : XInv sub w) {g : Gen} (hg : g ∈ w.started)
    (hnd : (w.started.map (·.id)).Nodup) : XInv sub (stopGen cont sub g w) := by
  have hdem : ∀ n, demand (·.services) w.started n =
      g.services.count n + demand (·.services) (w.started.filter (fun x => !(x.id == g.id))) n :=
    fun n => demand_remove (·.services) n w.started g hg hnd
  have hfold := fun n => svcRelease_fold n g.services (w.svc, w.owner) ((h.free n).trans (by rw [h.cnt n]))
  have hcnt : ∀ n, svcCount (stopGen cont sub g w).svc n =
      demand (·.services) (w.started.filter (fun x => !(x.id == g.id))) n := fun n => by
    show svcCount (g.services.foldl svcRelease (w.svc, w.owner)).1 n = _
    rw [(hfold n).1, h.cnt, hdem n, Nat.add_sub_cancel_left]
  refine ⟨chanUnsub_inv h.evc hg hnd, chanUnsub_inv h.mqc hg hnd, chanUnsub_inv h.whc hg hnd, fun hs key => ?_, hcnt,
    fun n => (hfold n).2.1.trans (congrArg (· = 0) (hcnt n)).to_iff, fun g' hg' n hn => ?_⟩
  · have := h.hookx hs key
    rw [demand_remove (·.hooks) key w.started g hg hnd] at this
    exact Nat.le_trans (Nat.le_add_left ..) this
  · -- `n` is still declared, so the count is not zero and the owner entry has stayed
    have hpos : 0 < svcCount (stopGen cont sub g w).svc n := by
      rw [hcnt]; exact (demand_pos_iff _ _ _).mpr ⟨g', hg', hn⟩
    rcases (hfold n).2.2 with hnone | hsame
    · exact absurd ((hfold n).2.1.mp hnone) (Nat.ne_of_gt hpos)
    · exact hsame.trans (h.own g' (List.mem_filter.mp hg').1 n hn)

theorem effective_ok {sub : Sub} {w : World} (h : XInv sub w) (g0 : Gen) :
    (∀ n ∈ (effective sub w g0).services,
        ownerOf w.owner n = none ∨ ownerOf w.owner n = some (effective sub w g0).ctx) ∧
    (sub = .new → ∀ key, demand (·.hooks) w.started key + (effective sub w g0).hooks.count key ≤ 1) := by
  unfold effective
  by_cases hr : refused sub w g0 = true
  · rw [if_pos hr]
    exact ⟨fun n hn => absurd hn List.not_mem_nil, fun hs key => h.hookx hs key⟩
  · rw [if_neg hr]
    have hr' : svcRefused w g0 = false ∧ hookClash sub w g0 = false := by
      simpa [refused, Bool.or_eq_false_iff] using hr
    constructor
    · intro n hn
      have hn' := List.any_eq_false.mp hr'.1 n hn
      cases ho : ownerOf w.owner n with
      | none => exact .inl rfl
      | some c =>
        rw [ho] at hn'
        exact .inr (congrArg some (by simpa using hn'))
    · rintro rfl key
      have hc := hr'.2
      simp only [hookClash, Bool.or_eq_false_iff, Bool.not_eq_eq_eq_not, Bool.not_false, List.any_eq_false] at hc
      obtain ⟨hdf, hfree⟩ := hc
      by_cases hk : key ∈ g0.hooks
      · have h0 : busCount w.wh.bus key = 0 := by simpa using hfree key hk
        rw [(h.whc.new rfl).2 key] at h0
        rw [h0, Nat.zero_add]
        exact dupFree_count hdf key
      · rw [List.count_eq_zero.mpr hk]
        exact h.hookx rfl key

theorem applyOp_xinv {sub : Sub} {w : World} (hx : XInv sub w) (op : Op) : XInv sub (applyOp sub w op) := by
  rcases applyOp_refs sub w op with ⟨ctx, name, states, events, mqtts, hooks, services, su, sd, rfl⟩ | hr
  · obtain ⟨hok, hh⟩ := effective_ok hx (mkGen w.next ctx states events mqtts hooks services su sd)
    exact (startGen_xinv hx _ hok hh).withRefs _ _
  · exact hx.rewire hr

/-- today's loop: every operation sequence, no side condition -/
theorem run_now (sub : Sub) (ops : List Op) :
    StepInv delContinuesNow sub (run delContinuesNow sub ops) ∧ XInv sub (run delContinuesNow sub ops) :=
  run_inv (fun h hg hx => stopGen_xinv hx hg h.nodup) (fun op hx => applyOp_xinv hx op) (emptyWorld_xinv sub) ops
    fun op _ => opGood_of_cont sub op

end PsModel.C09
