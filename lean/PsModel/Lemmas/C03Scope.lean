import PsModel.Spec.C03Scope
namespace PsModel.C03

namespace PS

theorem handsUp_true (cfg : ScopeCfg) (hn : cfg.nonlocalPropagates = true) {e : FnScope} {x : String}
    (hg : e.globals.contains x = false) (hl : e.isLocal x = false) : PS.handsUp cfg e x true = true := by
  rw [PS.handsUp, hn, hg, hl]; rfl

/-- once a name has been handed up, every enclosing function on the way mentions it, so the search reaches exactly the
binding Python's rule names; an enclosing `global` declaration ends the search only when scoping is lexical -/
theorem lookup_eq_free (cfg : ScopeCfg) (hn : cfg.nonlocalPropagates = true) (x : String) (chain : List FnScope) (d : Nat)
    (h : cfg.lexicalOnly = true ∨ ∀ e ∈ chain, e.globals.contains x = false) :
    (match PS.lookup cfg x d true chain with | some k => Where.cell k | none => Where.global) = Py.free x d chain := by
  induction chain generalizing d with
  | nil => rfl
  | cons e rest ih =>
    rw [PS.lookup, Py.free, Bool.or_true, PS.entry]
    cases hg : e.globals.contains x with
    | true =>
      rcases h with h | h
      · rw [h]; rfl
      · exact absurd (h e List.mem_cons_self) (by rw [hg]; exact Bool.noConfusion)
    | false =>
      cases hl : e.isLocal x with
      | true => rfl
      | false =>
        rw [PS.handsUp_true cfg hn hg hl, ← ih (d + 1) (h.imp_right fun h e' he' => h e' (List.mem_cons_of_mem _ he'))]
        cases PS.lookup cfg x (d + 1) true rest with
        | some k => rfl
        | none => cases cfg.lexicalOnly <;> rfl

end PS

mutual
theorem targetNames_eq (cfg : BindCfg) (hl : cfg.listTargets = true) : ∀ t : Tgt, PS.targetNames cfg t = Py.targetNames t
  | .name x => by simp [PS.targetNames, Py.targetNames]
  | .tuple ts => by simp [PS.targetNames, Py.targetNames, elemNames_eq cfg hl ts]
  | .list ts => by simp [PS.targetNames, Py.targetNames, hl, elemNames_eq cfg hl ts]
  | .starred _ => by simp [PS.targetNames, Py.targetNames]
  | .other => by simp [PS.targetNames, Py.targetNames]
theorem elemNames_eq (cfg : BindCfg) (hl : cfg.listTargets = true) : ∀ ts : List Tgt, PS.elemNames cfg ts = Py.elemNames ts
  | [] => by simp [PS.elemNames, Py.elemNames]
  | .starred t :: rest => by
    simp [PS.elemNames, Py.elemNames, hl, targetNames_eq cfg hl t, elemNames_eq cfg hl rest]
  | .name x :: rest => by simp [PS.elemNames, Py.elemNames, targetNames_eq cfg hl (.name x), elemNames_eq cfg hl rest]
  | .tuple ts :: rest => by simp [PS.elemNames, Py.elemNames, targetNames_eq cfg hl (.tuple ts), elemNames_eq cfg hl rest]
  | .list ts :: rest => by simp [PS.elemNames, Py.elemNames, targetNames_eq cfg hl (.list ts), elemNames_eq cfg hl rest]
  | .other :: rest => by simp [PS.elemNames, Py.elemNames, targetNames_eq cfg hl .other, elemNames_eq cfg hl rest]
end

theorem del_names_eq (ts : List Tgt)
    (h : ∀ t ∈ ts, match t with | .name _ => True | .other => True | _ => False) :
    (ts.flatMap fun t => match t with | .name x => [x] | _ => []) = ts.flatMap Py.targetNames := by
  induction ts with
  | nil => rfl
  | cons t rest ih =>
    rw [List.flatMap_cons, List.flatMap_cons, ih fun t' ht' => h t' (List.mem_cons_of_mem _ ht')]
    have ht := h t List.mem_cons_self
    cases t with
    | name _ => rfl
    | other => rfl
    | tuple _ => exact False.elim ht
    | list _ => exact False.elim ht
    | starred _ => exact False.elim ht

theorem kindBinds_eq (cfg : BindCfg)
    (hall : cfg.annAssignBinds = true ∧ cfg.listTargets = true ∧ cfg.compVarNotLocal = true ∧ cfg.importBinds = true)
    (k : Kind) : PS.kindBinds cfg k = Py.kindBinds k := by
  obtain ⟨ha, _, hc, hi⟩ := hall
  cases k <;> simp only [PS.kindBinds, Py.kindBinds, ha, hc, hi, Bool.not_true]

theorem nodeNames_eq (cfg : BindCfg)
    (hall : cfg.annAssignBinds = true ∧ cfg.listTargets = true ∧ cfg.compVarNotLocal = true ∧ cfg.importBinds = true)
    (k : Kind) (ts : List Tgt)
    (hd : k = .del → ∀ t ∈ ts, match t with | .name _ => True | .other => True | _ => False) :
    PS.nodeNames cfg k ts = Py.nodeNames k ts := by
  rw [PS.nodeNames, Py.nodeNames, kindBinds_eq cfg hall, funext (targetNames_eq cfg hall.2.1)]
  cases Py.kindBinds k with
  | false => rfl
  | true =>
    by_cases hk : k = .del
    · rw [if_pos hk]; exact del_names_eq ts (hd hk)
    · rw [if_neg hk]; rfl

end PsModel.C03
