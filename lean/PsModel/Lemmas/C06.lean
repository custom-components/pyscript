import PsModel.Lemmas.C07
import PsModel.Spec.C06
/-!
# C06 helper lemmas: `parse_date_time` for each date form, `IsNext` and arithmetic progressions, the accumulator of
  `timer_trigger_next`, the wait-and-fire loop (the calendar is in `Lemmas/C07`)
-/
namespace PsModel.C06
open PsModel.C07

/-! ## days, midnights, weekdays -/

theorem midnight_add (d k : Int) : midnight (d + k) = midnight d + k * usDay := by
  simp only [midnight, usDay]
  omega

/-- the first weekday `j` on or after `today` -/
theorem weekday_dowOffset (j today : Int) (h0 : 0 ≤ j) (h6 : j ≤ 6) :
    weekday (today + dowOffset j (weekday today)) = j ∧ 0 ≤ dowOffset j (weekday today) ∧
      dowOffset j (weekday today) ≤ 6 := by
  simp only [weekday, dowOffset]
  omega

theorem dayOf_le_of_lt (now day c : Int) (hc : c < usDay) (h : now < midnight day + c) : dayOf now ≤ day := by
  simp only [dayOf, midnight, usDay] at *
  omega

theorem midnight_mono (a b : Int) (h : a ≤ b) : midnight a ≤ midnight b :=
  Int.mul_le_mul_of_nonneg_right h (by decide)

/-! ## `finishDT` / `parseDT` for the fixed time forms -/

theorem finishDT_fixed (P : C07.Params) (time : TimeSpec) (x off : Int) (fixed : Bool) (day : Int)
    (h : Spec.fixedTod time = some x) : finishDT P time off fixed day = (midnight day + x + off, fixed) := by
  cases time <;> simp [Spec.fixedTod] at h <;> subst h <;> simp [finishDT, timeStage]

theorem parse_noDate (P : C07.Params) (time : TimeSpec) (x off k now st : Int) (h : Spec.fixedTod time = some x)
    (hd : dayInRange (dayOf now)) :
    parseDT P (.at .none time off) k now st = some (midnight (dayOf now + k) + x + off, false) := by
  rw [parseDT_noDate P time off k now st hd, finishDT_fixed P time x off false _ h]

/-- weekday specification: the day offset argument is ignored -/
theorem parse_dow (P : C07.Params) (time : TimeSpec) (x off k j now st : Int) (h : Spec.fixedTod time = some x)
    (hd : dayInRange (dayOf now)) :
    parseDT P (.at (.dow j) time off) k now st =
      some (midnight (dayOf now + dowOffset j (weekday (dayOf now))) + x + off, true) := by
  simp only [parseDT, dateStage, baseDay, validDate_civilFromDays _ hd.1 hd.2, daysFromCivil_civilFromDays, if_true]
  rw [finishDT_fixed P time x off true _ h]

/-- full date: neither `now` nor the day offset matter -/
theorem parse_full (P : C07.Params) (time : TimeSpec) (x off k y m d now st : Int) (h : Spec.fixedTod time = some x)
    (hv : validDate y m d = true) :
    parseDT P (.at (.full y m d) time off) k now st = some (midnight (daysFromCivil y m d) + x + off, true) := by
  simp only [parseDT, dateStage, baseDay, hv, if_true, Int.add_zero]
  rw [finishDT_fixed P time x off true _ h]

theorem parse_monthDay (P : C07.Params) (time : TimeSpec) (x off k m d now st : Int) (h : Spec.fixedTod time = some x)
    (hv : validDate (civilFromDays (dayOf now)).y m d = true) :
    parseDT P (.at (.monthDay m d) time off) k now st =
      some (midnight (daysFromCivil (civilFromDays (dayOf now)).y m d) + x + off, true) := by
  simp only [parseDT, dateStage, baseDay, hv, if_true, Int.add_zero]
  rw [finishDT_fixed P time x off true _ h]

theorem parse_now (P : C07.Params) (off k now st : Int) : parseDT P (.now off) k now st = some (st + off, true) := rfl

/-! ## `IsNext` -/

/-- between `now` and the announced instant the answer does not change: no instant is skipped -/
theorem IsNext.shift {D : Int → Prop} {now now' t : Int} (h : IsNext D now (some t)) (h1 : now ≤ now') (h2 : now' < t) :
    IsNext D now' (some t) := by
  obtain ⟨hd, _, hmin⟩ := h
  exact ⟨hd, h2, fun t' ht' hlt => hmin t' ht' (Int.lt_of_le_of_lt h1 hlt)⟩

/-- at or after the announced instant a strictly later one (or none) is announced: no instant is repeated -/
theorem IsNext.later {D : Int → Prop} {now' t : Int} {r : Option Int} (h : IsNext D now' r) (h1 : t ≤ now') :
    ∀ t', r = some t' → t < t' := by
  rintro t' rfl
  exact Int.lt_of_le_of_lt h1 h.2.1

theorem IsNext.unique {D : Int → Prop} {now : Int} {r r' : Option Int} (h : IsNext D now r) (h' : IsNext D now r') :
    r = r' := by
  cases r with
  | none =>
    cases r' with
    | none => rfl
    | some t' => exact absurd h'.2.1 (h t' h'.1)
  | some t =>
    cases r' with
    | none => exact absurd h.2.1 (h' t h.1)
    | some t' =>
      exact congrArg some (Int.le_antisymm (h.2.2 t' h'.1 h'.2.1) (h'.2.2 t h.1 h.2.1))

/-! ## arithmetic progressions -/

/-- `S + per·(1 + ⌊(now − S)/per⌋)` is the first `S + n·per` (`n` any integer) after `now` -/
theorem tick_least (S per now : Int) (hp : 0 < per) :
    now < S + per * (1 + (now - S) / per) ∧
    ∀ n : Int, now < S + n * per → S + per * (1 + (now - S) / per) ≤ S + n * per := by
  have h1 : (now - S) / per * per ≤ now - S := Int.ediv_mul_le _ (Int.ne_of_gt hp)
  have h2 : now - S < ((now - S) / per + 1) * per := Int.lt_ediv_add_one_mul_self _ hp
  rw [Int.mul_comm per, Int.add_comm 1]
  generalize (now - S) / per = q at h1 h2 ⊢
  refine ⟨by omega, fun n hn => ?_⟩
  have hq : q * per < n * per := by omega
  have := Int.mul_le_mul_of_nonneg_right (Int.add_one_le_of_lt (Int.lt_of_mul_lt_mul_right hq (Int.le_of_lt hp))) (Int.le_of_lt hp)
  omega

/-! ## once -/

theorem startup_beq_false {now S st : Int} (h : ¬ (now = S ∧ now = st)) : (now == S && now == st) = false :=
  Bool.eq_false_iff.mpr fun hb => h (by simpa using hb)

/-- the daily occurrences are a progression: the first after `now` lies `timedelta.days + 1` days after any day's occurrence `T` -/
theorem isNext_daily (c day now T : Int) (hT : T = midnight day + c) :
    IsNext (Spec.daily c) now (some (T + (tdDays (now - T) + 1) * usDay)) := by
  obtain ⟨h1, h2⟩ := tick_least T usDay now (by decide)
  rw [Int.mul_comm, Int.add_comm 1] at h1 h2
  refine ⟨⟨day + (tdDays (now - T) + 1), by rw [midnight_add, hT]; omega⟩, h1, ?_⟩
  rintro t' ⟨day', rfl⟩ hlt
  have e : midnight day' + c = T + (day' - day) * usDay := by
    simp only [hT, midnight, Int.sub_mul]; omega
  rw [e] at hlt ⊢
  exact h2 _ hlt

/-- `once(time ± off)` away from start-up: the second parse, `timedelta.days + 1` days on, is announced (an offset of 0 days
    leaves the first parse, which is the same instant) -/
theorem onceCand_daily (P : Params) (time : TimeSpec) (x off now st T : Int) (h : Spec.fixedTod time = some x)
    (hd : dayInRange (dayOf now)) (hT : T = midnight (dayOf now) + x + off) (hst : ¬ (now = T ∧ now = st)) :
    onceCand false P (.at .none time off) now st = some (some (T + (tdDays (now - T) + 1) * usDay)) := by
  have hlt := (isNext_daily (x + off) (dayOf now) now T (hT.trans (Int.add_assoc ..))).2.1
  have pk : ∀ k, parseDT P.base (.at .none time off) k now st = some (T + k * usDay, false) := by
    intro k
    rw [parse_noDate P.base time x off k now st h hd, midnight_add, hT]
    congr 2
    omega
  have p0 := pk 0
  rw [Int.zero_mul, Int.add_zero] at p0
  have h2 : onceSecond false P (.at .none time off) now st (T, false) = some (T + (tdDays (now - T) + 1) * usDay, false) := by
    simp only [onceSecond, startup_beq_false hst, Bool.false_eq_true, if_false, Bool.not_false, Bool.and_true]
    generalize tdDays (now - T) + 1 = k
    by_cases hk : k = 0
    · simp [hk]
    · simp [hk, pk]
  simp only [onceCand, p0, h2, hlt, decide_true, Bool.true_or, if_true]

/-- when both `parse_date_time` calls give the same instant `T` (explicit date, weekday, `now`) -/
theorem onceCand_const (bv : Bool) (P : Params) (d : DTSpec) (now st T : Int) (fx : Bool)
    (hp : ∀ k, parseDT P.base d k now st = some (T, fx)) :
    onceCand bv P d now st = some (if now < T || (now == T && now == st) then some T else none) := by
  have h2 : onceSecond bv P d now st (T, fx) = some (T, fx) := by
    simp only [onceSecond, hp, ite_self]
  simp only [onceCand, hp 0, h2]

theorem timerNext1_once (F : TFlags) (P : Params) (d : DTSpec) (now st : Int) (c : Option Int)
    (h : onceCand F.startupByValue P d now st = some c) : timerNext1 F P (.once d) now st = some c := by
  simp only [timerNext1, specStep, h]
  cases c <;> rfl

theorem timerNext1_once_const (F : TFlags) (P : Params) (d : DTSpec) (now st T : Int) (fx : Bool)
    (hp : ∀ k, parseDT P.base d k now st = some (T, fx)) (hns : ¬ (now = T ∧ now = st)) :
    timerNext1 F P (.once d) now st = some (if now < T then some T else none) := by
  rw [timerNext1_once F P d now st _ (onceCand_const _ P d now st T fx hp), startup_beq_false hns, Bool.or_false]
  simp only [decide_eq_true_eq]

theorem timerNext1_once_ahead (F : TFlags) (P : Params) (d : DTSpec) (now st T : Int) (fx : Bool)
    (hp : ∀ k, parseDT P.base d k now st = some (T, fx)) (hlt : now < T) :
    timerNext1 F P (.once d) now st = some (some T) := by
  rw [timerNext1_once_const F P d now st T fx hp (fun e => Int.ne_of_lt hlt e.1), if_pos hlt]

theorem isNext_single (T now : Int) : IsNext (Spec.single T) now (if now < T then some T else none) := by
  by_cases h : now < T
  · simp only [h, if_true]
    exact ⟨rfl, h, fun t' ht' _ => Int.le_of_eq (Eq.symm ht')⟩
  · simp only [h, if_false]
    rintro t' rfl
    exact h

theorem isNext_weekly (j c now : Int) (h0 : 0 ≤ j) (h6 : j ≤ 6) (hc1 : c < usDay)
    (hlt : now < midnight (dayOf now + dowOffset j (weekday (dayOf now))) + c) :
    IsNext (Spec.weekly j c) now (some (midnight (dayOf now + dowOffset j (weekday (dayOf now))) + c)) := by
  obtain ⟨hw, ho0, ho6⟩ := weekday_dowOffset j (dayOf now) h0 h6
  generalize dowOffset j (weekday (dayOf now)) = o at hw ho0 ho6 hlt ⊢
  refine ⟨⟨_, hw, rfl⟩, hlt, ?_⟩
  rintro t' ⟨day', hw', rfl⟩ hlt'
  have hday := dayOf_le_of_lt now day' c hc1 hlt'
  -- the same weekday, not before today: not before the first such day from today on
  simp only [weekday] at hw hw'
  exact Int.add_le_add_right (midnight_mono _ _ (by omega)) c

/-- `once(M/D …)` while this year's occurrence is still ahead -/
theorem isNext_yearly (m d c now : Int) (hd : dayInRange (dayOf now)) (hc1 : c < usDay)
    (hv : validDate (civilFromDays (dayOf now)).y m d = true)
    (hlt : now < midnight (daysFromCivil (civilFromDays (dayOf now)).y m d) + c) :
    IsNext (Spec.yearly m d c) now (some (midnight (daysFromCivil (civilFromDays (dayOf now)).y m d) + c)) := by
  refine ⟨⟨_, hv, rfl⟩, hlt, ?_⟩
  rintro t' ⟨y2, hv2, rfl⟩ hlt'
  have hday := dayOf_le_of_lt now _ c hc1 hlt'
  refine Int.add_le_add_right (midnight_mono _ _ (dfc_year_mono _ y2 m d ?_)) c
  -- a date of an earlier year lies before 1 January of this one, which is not after today
  apply Int.not_lt.mp
  intro h1
  simp only [validDate, Bool.and_eq_true, decide_eq_true_eq] at hv2
  obtain ⟨⟨⟨⟨_, hm1⟩, hm12⟩, hd1⟩, hdl⟩ := hv2
  have h2 := (dfc_within_year y2 m d hm1 hm12 hd1 (Int.le_trans hdl (daysInMonth_le y2 m))).2
  have h3 := dfc_year_mono (y2 + 1) _ 1 1 h1
  have h4 := newYear_le (dayOf now) hd.1 hd.2
  omega

/-! ## period -/

theorem quot_exact (F : TFlags) (P : Params) (hE : FloatOK F P) (a per : Int) (hp : 0 < per) : quot F P a per = a / per := by
  simp only [quot]
  cases hf : F.floatTick with
  | false => simp
  | true => simp [hE hf a per hp]

/-- the first of `S, S + per, S + 2·per, …` after `now`: `S` while it is ahead, afterwards the tick after `now` -/
def firstTick (S per now : Int) : Int := if now < S then S else S + per * (1 + (now - S) / per)

theorem isNext_progression (S per now : Int) (hp : 0 < per) :
    IsNext (Spec.progression S per) now (some (firstTick S per now)) := by
  unfold firstTick
  by_cases hlt : now < S
  · rw [if_pos hlt]
    refine ⟨⟨0, by simp⟩, hlt, ?_⟩
    rintro t' ⟨n, rfl⟩ _
    exact Int.le_add_of_nonneg_right (Int.mul_nonneg (Int.natCast_nonneg n) (Int.le_of_lt hp))
  · rw [if_neg hlt]
    obtain ⟨h1, h2⟩ := tick_least S per now hp
    have hq : 0 ≤ (now - S) / per := Int.ediv_nonneg (Int.sub_nonneg.mpr (Int.not_lt.mp hlt)) (Int.le_of_lt hp)
    refine ⟨⟨(1 + (now - S) / per).toNat, by rw [Int.toNat_of_nonneg (Int.add_nonneg (by decide) hq), Int.mul_comm]⟩, h1, ?_⟩
    rintro t' ⟨n, rfl⟩ hlt'
    exact h2 n hlt'

theorem isNext_progressionTo (S per E now : Int) (hp : 0 < per) :
    IsNext (Spec.progressionTo S per E) now (if firstTick S per now ≤ E then some (firstTick S per now) else none) := by
  obtain ⟨⟨n, hn⟩, hlt, hmin⟩ := isNext_progression S per now hp
  by_cases hle : firstTick S per now ≤ E
  · rw [if_pos hle]
    exact ⟨⟨n, hn, hle⟩, hlt, fun t' ⟨n', hn', _⟩ h => hmin t' ⟨n', hn'⟩ h⟩
  · rw [if_neg hle]
    intro t' ⟨n', hn', hle'⟩ h
    exact hle (Int.le_trans (hmin t' ⟨n', hn'⟩ h) hle')

/-- the two updates of the no-end branch in one -/
theorem periodNoEnd_eq (F : TFlags) (P : Params) (S per now st : Int) (s : NT) :
    periodNoEnd F P S per now st s =
      if now < S ∨ (now = S ∧ now = st) then s.take S S
      else if now < nextTick F P S per now then s.take (nextTick F P S per now) (nextTick F P S per now) else s := by
  simp only [periodNoEnd]
  cases hb : (now == S && now == st) with
  | true =>
    obtain ⟨rfl, rfl⟩ : now = S ∧ now = st := by simpa using hb
    simp
  | false =>
    have hst : ¬ (now = S ∧ now = st) := by simpa using hb
    by_cases hlt : now < S
    · have hge : ¬ now ≥ S := Int.not_le.mpr hlt
      simp [hlt, hge]
    · have hge : now ≥ S := Int.not_lt.mp hlt
      simp [hlt, hge, hst]

theorem periodNoEnd_first (F : TFlags) (P : Params) (hE : FloatOK F P) (S per now st : Int) (s : NT) (hp : 0 < per)
    (hns : ¬ (now = S ∧ now = st)) :
    periodNoEnd F P S per now st s = s.take (firstTick S per now) (firstTick S per now) := by
  have ht := (tick_least S per now hp).1
  rw [periodNoEnd_eq, nextTick, quot_exact F P hE _ _ hp, firstTick]
  by_cases hlt : now < S
  · simp only [hlt, true_or, if_true]
  · simp only [hlt, hns, or_self, if_false, ht, if_true]

theorem timerNext1_period_noend (F : TFlags) (P : Params) (hE : FloatOK F P) (startSpec : DTSpec) (S per now st : Int) (fx : Bool)
    (hS : parseDT P.base startSpec 0 now st = some (S, fx)) (hp : 0 < per) (hns : ¬ (now = S ∧ now = st)) :
    timerNext1 F P (.period startSpec per none) now st = some (some (firstTick S per now)) := by
  have hnp : ¬ per ≤ 0 := Int.not_le.mpr hp
  simp only [timerNext1, specStep, periodStep, hS, hnp, if_false, Option.map_some,
    periodNoEnd_first F P hE S per now st _ hp hns]
  rfl

/-- a time-only start below the interval, the interval dividing a day: today's progression and the progression over all
    days have the same first element after `now` -/
theorem isNext_dailyProgression (s per k today now t : Int) (hp : 0 < per) (hk : usDay = k * per)
    (hs1 : s < per) (hnow : midnight today ≤ now)
    (h : IsNext (Spec.progression (midnight today + s) per) now (some t)) :
    IsNext (Spec.dailyProgression s per) now (some t) := by
  obtain ⟨⟨n, hn⟩, hlt, hmin⟩ := h
  have hmid : midnight today = today * k * per := by
    simp only [midnight]; rw [hk, Int.mul_assoc]
  refine ⟨⟨today * k + n, ?_⟩, hlt, ?_⟩
  · rw [hn, hmid, Int.add_mul]; omega
  · intro t' ⟨m, hm⟩ hlt'
    -- `t'` is today's start plus a multiple of the interval, and the multiple is not negative
    have hA : t' = midnight today + s + (m - today * k) * per := by
      rw [hm, hmid, Int.sub_mul]; omega
    have hpos : 0 ≤ m - today * k := by
      -- otherwise `t'` lies a whole interval before today's start, hence before midnight
      refine Int.not_lt.mp fun hneg => ?_
      have := Int.mul_le_mul_of_nonneg_right (Int.add_one_le_of_lt hneg) (Int.le_of_lt hp)
      rw [Int.add_mul, Int.one_mul, Int.zero_mul] at this
      omega
    apply hmin t' ⟨(m - today * k).toNat, ?_⟩ hlt'
    rw [Int.toNat_of_nonneg hpos]
    exact hA

/-- the `day_dither = [0]` loop for dated start and end -/
theorem ditherLoop_dated (F : TFlags) (P : Params) (hE : FloatOK F P) (startSpec stopSpec : DTSpec) (S E per now st : Int)
    (fs fe : Bool) (s : NT) (hp : 0 < per) (hS : parseDT P.base startSpec 0 now st = some (S, fs))
    (hEn : parseDT P.base stopSpec 0 now st = some (E, fe)) (hns : ¬ (now = S ∧ now = st)) :
    ditherLoop F P startSpec stopSpec per 0 now st s [0] =
      some (if firstTick S per now ≤ E then s.take (firstTick S per now) (firstTick S per now) else s) := by
  have h1 := (tick_least S per now hp).1
  have hEn' : parseDT P.base stopSpec (0 + 0) now st = some (E, fe) := hEn
  simp only [ditherLoop, hS, hEn', startup_beq_false hns, Bool.or_false, nextTick, quot_exact F P hE _ _ hp, firstTick,
    Bool.and_eq_true, decide_eq_true_eq]
  by_cases hlt : now < S
  · by_cases hle : S ≤ E
    · simp only [hlt, hle, and_self, if_true]
    · -- a start beyond the end: no tick passes `start ≤ tick ≤ end` either
      have : ¬ (S ≤ S + per * (1 + (now - S) / per) ∧ S + per * (1 + (now - S) / per) ≤ E) :=
        fun h => hle (Int.le_trans h.1 h.2)
      simp only [hlt, hle, and_false, if_false, this, if_true]
  · have : S ≤ S + per * (1 + (now - S) / per) := Int.le_of_lt (Int.lt_of_le_of_lt (Int.not_lt.mp hlt) h1)
    simp only [hlt, false_and, if_false, this, true_and]
    split <;> rfl

/-! ## cron -/

theorem cronLoop_spec (P : Params) (hC : CronForward P) (id : Nat) (now : Int) (fuel : Nat) (cur val delta : Int)
    (hcur : now ≤ cur) (h : cronLoop P id now fuel cur = some (val, delta)) :
    now < val ∧ 0 < delta ∧ delta = (val - P.utcOff val) - (now - P.utcOff now) := by
  induction fuel generalizing cur with
  | zero => simp [cronLoop] at h
  | succ n ih =>
    simp only [cronLoop] at h
    have hf := hC id cur
    split at h
    · exact ih (P.cronNext id cur) (Int.le_trans hcur (Int.le_of_lt hf)) h
    · simp only [Option.some.injEq, Prod.mk.injEq] at h
      obtain ⟨rfl, rfl⟩ := h
      exact ⟨Int.lt_of_le_of_lt hcur hf, Int.not_le.mp ‹_›, rfl⟩

/-! ## the accumulator -/

theorem take_next (s : NT) (t a : Int) : (s.take t a).next = minOpt s.next (some t) := by
  simp only [NT.take]
  cases h : s.next with
  | none => simp [minOpt]
  | some n =>
    simp only [minOpt]
    split <;> simp_all

/-- fold the answer `r` of one specification (computed from the empty accumulator) into the accumulator `s` -/
def NT.merge (s r : NT) : NT :=
  match r.next with
  | some t => s.take t (r.adj.getD t)
  | none => s

theorem merge_next (s r : NT) : (s.merge r).next = minOpt s.next r.next := by
  simp only [NT.merge]
  cases h : r.next with
  | none => cases s.next <;> simp [minOpt]
  | some t => simp [take_next]

theorem merge_empty (s : NT) : s.merge ⟨none, none⟩ = s := rfl

theorem merge_take (s : NT) (t a : Int) : s.merge ((⟨none, none⟩ : NT).take t a) = s.take t a := by
  simp [NT.merge, NT.take]

/-! ## what one entry does with the accumulator -/

/-- strictly after `now`, or the start-up instant itself at start-up -/
def Future (now st t : Int) : Prop := now < t ∨ (t = now ∧ now = st)

def NTFuture (now st : Int) (s : NT) : Prop := ∀ t, s.next = some t → Future now st t

theorem take_future (now st : Int) (s : NT) (c a : Int) (hs : NTFuture now st s) (hc : Future now st c) :
    NTFuture now st (s.take c a) := by
  intro t ht
  rw [take_next] at ht
  cases h : s.next with
  | none => rw [h] at ht; cases ht; exact hc
  | some n =>
    rw [h] at ht
    simp only [minOpt] at ht
    split at ht
    · cases ht; exact hc
    · cases ht; exact hs _ h

theorem beq_and_future (now S st : Int) (h : (now == S && now == st) = true) : Future now st S := by
  simp only [Bool.and_eq_true, beq_iff_eq] at h
  exact Or.inr ⟨h.1.symm, h.2⟩

theorem onceCand_future (bv : Bool) (P : Params) (d : DTSpec) (now st t : Int) (h : onceCand bv P d now st = some (some t)) :
    Future now st t := by
  simp only [onceCand] at h
  split at h
  · cases h
  · split at h
    · cases h
    · simp only [Option.some.injEq] at h
      split at h
      · next hcond =>
        cases h
        simp only [Bool.or_eq_true, decide_eq_true_eq] at hcond
        exact hcond.elim Or.inl (beq_and_future _ _ _)
      · cases h

/-- an entry treats every accumulator alike: it raises, leaves it as it is, or offers it one instant `t` – which is never in the
    past when `ok` holds (the assumptions on the parameters) -/
inductive Offers (now st : Int) (ok : Prop) (f : NT → Option NT) : Prop
  | raises (h : ∀ s, f s = none)
  | leaves (h : ∀ s, f s = some s)
  | offers (t a : Int) (ht : ok → Future now st t) (h : ∀ s, f s = some (s.take t a))

theorem Offers.merge {now st : Int} {ok : Prop} {f : NT → Option NT} (h : Offers now st ok f) (s : NT) :
    f s = (f ⟨none, none⟩).map (fun r => s.merge r) := by
  cases h with
  | raises h => rw [h, h]; rfl
  | leaves h => rw [h, h]; rfl
  | offers t a _ h => rw [h, h]; exact congrArg some (merge_take s t a).symm

theorem Offers.future {now st : Int} {ok : Prop} {f : NT → Option NT} (h : Offers now st ok f) (hok : ok) {s r : NT}
    (hs : NTFuture now st s) (hr : f s = some r) : NTFuture now st r := by
  cases h with
  | raises h => rw [h] at hr; cases hr
  | leaves h => rw [h] at hr; cases hr; exact hs
  | offers t a ht h => rw [h] at hr; cases hr; exact take_future now st s t a hs (ht hok)

theorem periodNoEnd_offers (F : TFlags) (P : Params) (S per now st : Int) (ok : Prop) :
    Offers now st ok fun s => some (periodNoEnd F P S per now st s) := by
  simp only [periodNoEnd_eq]
  by_cases h1 : now < S ∨ (now = S ∧ now = st)
  · exact .offers S S (fun _ => h1.elim Or.inl fun h => Or.inr ⟨h.1.symm, h.2⟩) fun _ => congrArg some (if_pos h1)
  · by_cases h2 : now < nextTick F P S per now
    · exact .offers _ _ (fun _ => Or.inl h2) fun _ => congrArg some ((if_neg h1).trans (if_pos h2))
    · exact .leaves fun _ => congrArg some ((if_neg h1).trans (if_neg h2))

theorem ditherLoop_offers (F : TFlags) (P : Params) (a b : DTSpec) (per endOff now st : Int) (hp : 0 < per) (ok : Prop)
    (hE : ok → FloatOK F P) (days : List Int) :
    Offers now st ok fun s => ditherLoop F P a b per endOff now st s days := by
  induction days with
  | nil => exact .leaves fun _ => rfl
  | cons day rest ih =>
    simp only [ditherLoop]
    cases parseDT P.base a day now st with
    | none => exact .raises fun _ => rfl
    | some x =>
      cases parseDT P.base b (day + endOff) now st with
      | none => exact .raises fun _ => rfl
      | some y =>
        simp only
        by_cases h1 : ((decide (now < x.1) || (now == x.1 && now == st)) && decide (x.1 ≤ y.1)) = true
        · refine .offers x.1 x.1 (fun _ => ?_) fun _ => if_pos h1
          rw [Bool.and_eq_true, Bool.or_eq_true, decide_eq_true_eq] at h1
          exact h1.1.elim Or.inl (beq_and_future _ _ _)
        · by_cases h2 : (decide (x.1 ≤ nextTick F P x.1 per now) && decide (nextTick F P x.1 per now ≤ y.1)) = true
          · refine .offers _ _ (fun hok => Or.inl ?_) fun _ => (if_neg h1).trans (if_pos h2)
            rw [nextTick, quot_exact F P (hE hok) _ _ hp]
            exact (tick_least x.1 per now hp).1
          · simp only [if_neg h1, if_neg h2]
            exact ih

theorem specStep_offers (F : TFlags) (P : Params) (now st : Int) (sp : TSpec) :
    Offers now st (FloatOK F P ∧ CronForward P) fun s => specStep F P now st s sp := by
  have skip : ∀ c : Bool, Offers now st (FloatOK F P ∧ CronForward P) fun s => if c then none else some s := fun c => by
    cases c
    · exact .leaves fun _ => rfl
    · exact .raises fun _ => rfl
  cases sp with
  | once d =>
    simp only [specStep]
    cases hc : onceCand F.startupByValue P d now st with
    | none =>
      simp only
      by_cases h : (!F.badDateRaises && (parseDT P.base d 0 now st).isNone) = true
      · exact .leaves fun _ => if_pos h
      · exact .raises fun _ => if_neg h
    | some c =>
      cases c with
      | none => exact .leaves fun _ => rfl
      | some t => exact .offers t t (fun _ => onceCand_future _ _ _ _ _ _ hc) fun _ => rfl
  | cron id =>
    simp only [specStep]
    cases hc : cronLoop P id now cronFuel now with
    | none => exact skip _
    | some v =>
      exact .offers v.1 (now + v.2) (fun hok => Or.inl (cronLoop_spec P hok.2 id now cronFuel now v.1 v.2 (Int.le_refl _) hc).1)
        fun _ => rfl
  | period a per stop =>
    simp only [specStep, periodStep]
    cases parseDT P.base a 0 now st with
    | none => exact skip _
    | some x =>
      by_cases hp : per ≤ 0
      · exact .leaves fun _ => if_pos hp
      · simp only [if_neg hp]
        cases stop with
        | none => exact periodNoEnd_offers F P x.1 per now st _
        | some b =>
          simp only
          cases parseDT P.base b 0 now st with
          | none => exact skip _
          | some y =>
            have hd := fun endOff days => ditherLoop_offers F P a b per endOff now st (Int.not_le.mp hp)
              (FloatOK F P ∧ CronForward P) (fun h => h.1) days
            by_cases hc : (!x.2 && !y.2) = true
            · simp only [periodWithEnd, if_pos hc]; exact hd _ _
            · simp only [periodWithEnd, if_neg hc]; exact hd _ _

/-! ## the list of entries: the minimum of the single answers, never in the past -/

/-- the answers of the single specifications (`none`: one of them raises) -/
def singles (F : TFlags) (P : Params) (now st : Int) : List TSpec → Option (List (Option Int))
  | [] => some []
  | sp :: rest =>
    match timerNext1 F P sp now st with
    | none => none
    | some a => (singles F P now st rest).map (fun l => a :: l)

theorem specsLoop_min (F : TFlags) (P : Params) (now st : Int) (specs : List TSpec) (s : NT) :
    (specsLoop F P now st specs s).map (·.next) =
      (singles F P now st specs).map (fun l => l.foldl minOpt s.next) := by
  induction specs generalizing s with
  | nil => simp [specsLoop, singles]
  | cons sp rest ih =>
    simp only [specsLoop, singles, timerNext1]
    rw [(specStep_offers F P now st sp).merge s]
    cases specStep F P now st ⟨none, none⟩ sp with
    | none => rfl
    | some r =>
      simp only [Option.map_some]
      rw [ih]
      cases singles F P now st rest with
      | none => rfl
      | some l => simp [merge_next]

theorem specsLoop_future (F : TFlags) (P : Params) (hE : FloatOK F P) (hC : CronForward P) (now st : Int) (specs : List TSpec)
    (s r : NT) (hs : NTFuture now st s) (h : specsLoop F P now st specs s = some r) : NTFuture now st r := by
  induction specs generalizing s with
  | nil => simp only [specsLoop, Option.some.injEq] at h; subst h; exact hs
  | cons sp rest ih =>
    simp only [specsLoop] at h
    cases h1 : specStep F P now st s sp with
    | none => simp [h1] at h
    | some s' =>
      simp only [h1] at h
      exact ih s' ((specStep_offers F P now st sp).future ⟨hE, hC⟩ hs h1) h

/-! ## "startup" / "shutdown" entries -/

theorem strip_eq (m : TArg) (args : List TArg) : strip m args = (args.contains m, args.filter (· ≠ m)) := by
  induction args with
  | nil => rfl
  | cons a rest ih =>
    by_cases h : a = m
    · simp [strip, h, ih]
    · simp [strip, h, ih, Ne.symm h]

theorem strip_fst (m : TArg) (args : List TArg) : (strip m args).1 = args.contains m := by rw [strip_eq]

theorem strip_contains_other (m m' : TArg) (hne : m ≠ m') (args : List TArg) :
    (strip m args).2.contains m' = args.contains m' := by
  rw [strip_eq, Bool.eq_iff_iff]
  simp [List.mem_filter, Ne.symm hne]

theorem specsOf_strip (m : TArg) (hm : ∀ s, m ≠ .spec s) (args : List TArg) : specsOf (strip m args).2 = specsOf args := by
  rw [strip_eq]
  show specsOf (args.filter (· ≠ m)) = specsOf args
  induction args with
  | nil => rfl
  | cons a rest ih =>
    by_cases h : a = m
    · rw [List.filter_cons_of_neg (by simpa using h), ih]
      subst h
      cases a with
      | spec s => exact absurd rfl (hm s)
      | startup => rfl
      | shutdown => rfl
    · rw [List.filter_cons_of_pos (by simpa using h)]
      cases a <;> simp only [specsOf, ih]

/-! ## the wait-and-fire loop -/

theorem timeLoop_succs (F : TFlags) (P : Params) (specs : List TSpec) (st : Int) (D : Int → Prop) (lat : Nat → Int) (lo : Int)
    (hnext : ∀ now, lo ≤ now → ∃ r, timerNext F P specs now st = some r ∧ IsNext D now r.next)
    (hlat1 : ∀ i, 1 ≤ lat i)
    (hlat2 : ∀ i t t', D t → D t' → ¬ (t < t' ∧ t' ≤ t + lat i))
    (n : Nat) (now : Int) (hlo : lo ≤ now) :
    Succs D (timeLoop F P specs st lat n now) ∧
    ∀ a, (timeLoop F P specs st lat n now).head? = some a → D a ∧ now < a ∧ ∀ t', D t' → ¬ (now < t' ∧ t' < a) := by
  induction n generalizing now with
  | zero => exact ⟨trivial, fun a ha => nomatch ha⟩
  | succ k ih =>
    obtain ⟨⟨nx, adj⟩, hr, hn⟩ := hnext now hlo
    cases nx with
    | none => simp only [timeLoop, hr]; exact ⟨trivial, fun a ha => nomatch ha⟩
    | some t =>
      simp only [timeLoop, hr]
      obtain ⟨hD, hlt, hmin⟩ := hn
      have hle : t ≤ t + lat k := Int.le_add_of_nonneg_right (Int.le_trans (by decide) (hlat1 k))
      obtain ⟨ihs, ihh⟩ := ih (t + lat k) (Int.le_trans hlo (Int.le_trans (Int.le_of_lt hlt) hle))
      refine ⟨?_, ?_⟩
      · cases hl : timeLoop F P specs st lat k (t + lat k) with
        | nil => exact hD
        | cons b rest =>
          rw [hl] at ihs ihh
          obtain ⟨hDb, hltb, hgap⟩ := ihh b rfl
          refine ⟨hD, Int.lt_of_le_of_lt hle hltb, ?_, ihs⟩
          intro t' ht' ⟨h3, h4⟩
          by_cases h5 : t' ≤ t + lat k
          · exact hlat2 k t t' hD ht' ⟨h3, h5⟩
          · exact hgap t' ht' ⟨Int.not_le.mp h5, h4⟩
      · intro a ha
        cases ha
        exact ⟨hD, hlt, fun t' ht' ⟨h3, h4⟩ => Int.not_lt.mpr (hmin t' ht' h3) h4⟩

end PsModel.C06
