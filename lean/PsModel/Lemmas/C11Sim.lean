import PsModel.Lemmas.C11
/-!
# C11 lemmas – the pointer-switching evaluator refines the lexical reference

`abs` commutes with every primitive from a coherent state (`abs_*`).  `simAll` carries such a commutation through the
evaluator for programs that do not execute `set_global_ctx`; it is stated for any reading `view g` of the model state that
commutes with the primitives (`View`), so that it serves both for `abs` itself (`view_abs`) and, in `C11Frame`, for `abs`
followed by the replacement of an unreferenced context's table.
-/
namespace PsModel.C11

theorem abs_isGlobalName (st : St) (x : String) : Py.isGlobalName (abs st).env x = isGlobalName st.p x := rfl

theorem abs_readSym {st : St} (hc : Coh st.p) (x : String) : Py.readSym (abs st) x = readSym st x := by
  unfold Py.readSym readSym abs envOf
  cases hs : st.p.sym with
  | loc t => simp
  | glob c => simp [hc.2 c hs]

theorem abs_lookupVar {st : St} (hc : Coh st.p) (x : String) : Py.lookupVar (abs st) x = lookupVar st x := by
  unfold Py.lookupVar lookupVar
  rw [abs_isGlobalName, abs_readSym hc]
  rfl

theorem abs_writeSym {st : St} (hc : Coh st.p) (x : String) (v : Val) :
    Py.writeSym (abs st) x v = abs (writeSym st x v) := by
  unfold Py.writeSym writeSym abs envOf
  cases hs : st.p.sym with
  | loc t => simp
  | glob c =>
    have := hc.2 c hs
    subst this
    simp [hs]

/-- the reference state a model state stands for when its heap is read through `g`; `view id` is `abs` -/
def view (g : Heap → Heap) (st : St) : PSt := ⟨g st.h, envOf st.p⟩

/-- What makes the reading `view g` commute with the evaluator.  `I` is what must hold of the model state, `V` of the
values in play (what a name or a module attribute evaluates to, arguments, results, imported modules); `V (.mod c)` is
also what licenses reading and writing the table of context `c`, and `V (.fn c fid)` a call into `c`.  Then reading a
name or a module's table agrees and yields such values, writing commutes with `view g` and keeps `I`, and `I` holds
again where the evaluator changes pointers (`enter`, `spawn`, `load`) and where it puts the caller's pointers back
(`back`, `commit`). -/
structure View (W : World) (g : Heap → Heap) (I : St → Prop) (V : Val → Prop) : Prop where
  coh : ∀ {st}, I st → Coh st.p
  consts : V .none ∧ (∀ n, V (.int n)) ∧ ∀ l, V (.names l)
  cur : ∀ {st}, I st → V (.mod st.p.gst) ∧ ∀ fid, V (.fn st.p.gctx fid)
  name : ∀ {st} (x : String), I st →
    Py.lookupVar (view g st) x = lookupVar st x ∧ ∀ v, lookupVar st x = .ok v → V v
  tab : ∀ {st} {c : Nat}, I st → V (.mod c) → (g st.h).tab c = st.h.tab c ∧ ∀ kv ∈ st.h.tab c, V kv.2
  write : ∀ {st} {v : Val} (x : String), I st → V v →
    Py.writeSym (view g st) x v = view g (writeSym st x v) ∧ I (writeSym st x v)
  setKey : ∀ {st} {c : Nat} {w : Val} (a : String), I st → V (.mod c) → V w →
    (g st.h).setKey c a w = g (st.h.setKey c a w) ∧ I { st with h := st.h.setKey c a w }
  enter : ∀ {st} {c fid : Nat} {ps : List String} {vs : List Val} {l : Table} (gl : List String), I st → V (.fn c fid) →
    (∀ v ∈ vs, V v) → bindArgs ps vs = some l → I { st with p := enterCall st.p c l gl }
  spawn : ∀ {st} {fv : Val} (own : Bool), I st → V fv →
    I { st with p := fresh (if own then fnCtx fv st.p.gctx else st.p.gctx) }
  back : ∀ {a b : St}, I a → I b → I ⟨b.h, a.p⟩
  lookup : ∀ {st} (m : Name) (lvl : Nat), I st →
    importLookup W (g st.h) st.p.gctx m lvl = importLookup W st.h st.p.gctx m lvl ∧
    ∀ c, importLookup W st.h st.p.gctx m lvl = .found c → V (.mod c)
  load : ∀ {st} (cd : Cand), I st →
    (g st.h).ctxs.length = st.h.ctxs.length ∧ loadBegin (g st.h) cd = g (loadBegin st.h cd) ∧
    I ⟨loadBegin st.h cd, fresh st.h.ctxs.length⟩ ∧ V (.mod st.h.ctxs.length)
  commit : ∀ {a b : St} {c : Nat} (cd : Cand), I a → I b → V (.mod c) →
    loadCommit (g b.h) cd c = g (loadCommit b.h cd c) ∧ I ⟨loadCommit b.h cd c, a.p⟩

theorem view_abs (W : World) : View W id (fun st => Coh st.p) (fun _ => True) where
  coh hc := hc
  consts := ⟨trivial, fun _ => trivial, fun _ => trivial⟩
  cur _ := ⟨trivial, fun _ => trivial⟩
  name x hc := ⟨abs_lookupVar hc x, fun _ _ => trivial⟩
  tab _ _ := ⟨rfl, fun _ _ => trivial⟩
  write x hc _ := ⟨abs_writeSym hc x _, hc.of_same (quiet_writeSym _ x _).same⟩
  setKey _ hc _ _ := ⟨rfl, hc⟩
  enter gl hc _ _ _ := coh_enterCall hc _ _ gl
  spawn _ _ _ := coh_fresh _
  back ha _ := ha
  lookup _ _ _ := ⟨rfl, fun _ _ => trivial⟩
  load _ _ := ⟨rfl, rfl, coh_fresh _, trivial⟩
  commit _ ha _ _ := ⟨rfl, ha⟩

section
variable {W : World} {g : Heap → Heap} {I : St → Prop} {V : Val → Prop} (hv : View W g I V)
include hv

namespace View

theorem attr {st : St} {v : Val} (hI : I st) (hx : V v) (a : String) :
    getAttr (g st.h) v a = getAttr st.h v a ∧ ∀ w, getAttr st.h v a = .ok w → V w := by
  cases v with
  | mod c =>
    obtain ⟨e, ht⟩ := hv.tab hI hx
    simp only [getAttr, e, true_and]
    intro w hw
    cases hg : tget (st.h.tab c) a with
    | none => rw [hg] at hw; cases hw
    | some u => rw [hg] at hw; cases hw; exact ht _ (lookup_mem hg)
  | _ => exact ⟨rfl, fun _ h => nomatch h⟩

theorem atom {st : St} (hI : I st) (a : Atom) :
    Py.evalAtom (view g st) a = evalAtom st a ∧ ∀ v, evalAtom st a = .ok v → V v := by
  cases a with
  | lit n => exact ⟨rfl, fun v h => by cases h; exact hv.consts.2.1 n⟩
  | var x => exact hv.name x hI
  | attr x a =>
    simp only [Py.evalAtom, evalAtom, (hv.name x hI).1]
    cases hl : lookupVar st x with
    | error e => exact ⟨rfl, fun _ h => nomatch h⟩
    | ok v => exact hv.attr hI ((hv.name x hI).2 v hl) a

theorem atoms {st : St} (hI : I st) (as : List Atom) :
    Py.evalAtoms (view g st) as = evalAtoms st as ∧ ∀ vs, evalAtoms st as = .ok vs → ∀ v ∈ vs, V v := by
  induction as with
  | nil => exact ⟨rfl, fun vs h => by cases h; exact fun _ hm => nomatch hm⟩
  | cons a r ih =>
    refine ⟨by simp only [Py.evalAtoms, evalAtoms, (hv.atom hI a).1, ih.1]; rfl, fun vs h => ?_⟩
    simp only [evalAtoms] at h
    cases ha : evalAtom st a with
    | error e => rw [ha] at h; cases h
    | ok v =>
      rw [ha] at h
      cases hr : evalAtoms st r with
      | error e => rw [hr] at h; cases h
      | ok ws =>
        rw [hr] at h
        cases h
        exact List.forall_mem_cons.mpr ⟨(hv.atom hI a).2 v ha, ih.2 ws hr⟩

theorem add {a b v : Val} (h : addVals a b = .ok v) : V v := by
  unfold addVals at h
  split at h
  · cases h; exact hv.consts.2.1 _
  · cases h

theorem assign {st : St} {v : Val} (x : String) (hI : I st) (hx : V v) :
    Py.assignVar (view g st) x v = view g (assignVar st x v) ∧ I (assignVar st x v) := by
  unfold Py.assignVar assignVar
  rw [show Py.isGlobalName (view g st).env x = isGlobalName st.p x from rfl]
  split
  · obtain ⟨e, hI'⟩ := hv.setKey x hI (hv.cur hI).1 hx
    exact ⟨congrArg (fun h => (⟨h, envOf st.p⟩ : PSt)) e, hI'⟩
  · exact hv.write x hI hx

theorem from_ {c : Nat} (hc : V (.mod c)) (names : List (String × Option String)) : ∀ {st : St}, I st →
    Py.bindFrom (view g st) c names = (view g (bindFrom st c names).1, (bindFrom st c names).2) ∧
    I (bindFrom st c names).1 := by
  induction names with
  | nil => intro st hI; exact ⟨rfl, hI⟩
  | cons na r ih =>
    intro st hI
    obtain ⟨nm, asn⟩ := na
    obtain ⟨e, ht⟩ := hv.tab hI hc
    simp only [Py.bindFrom, bindFrom]
    rw [show (view g st).h = g st.h from rfl, e]
    cases hg : tget (st.h.tab c) nm with
    | none => exact ⟨rfl, hI⟩
    | some v =>
      simp only
      obtain ⟨ew, hI'⟩ := hv.write (asn.getD nm) hI (ht _ (lookup_mem hg))
      rw [ew]
      exact ih hI'

theorem star (t : Table) (ht : ∀ kv ∈ t, V kv.2) : ∀ {st : St}, I st →
    Py.bindStar (view g st) t = view g (bindStar st t) ∧ I (bindStar st t) := by
  induction t with
  | nil => intro st hI; exact ⟨rfl, hI⟩
  | cons kv r ih =>
    intro st hI
    obtain ⟨k, v⟩ := kv
    have hr : ∀ kv ∈ r, V kv.2 := fun kv hk => ht kv (List.mem_cons_of_mem _ hk)
    simp only [Py.bindStar, bindStar]
    split
    · obtain ⟨ew, hI'⟩ := hv.write k hI (ht (k, v) List.mem_cons_self)
      rw [ew]
      exact ih hr hI'
    · exact ih hr hI

theorem starC {st : St} {c : Nat} (hI : I st) (hc : V (.mod c)) :
    Py.bindStarC W.cfg (view g st) c = (view g (bindStarC W.cfg st c).1, (bindStarC W.cfg st c).2) ∧
    I (bindStarC W.cfg st c).1 := by
  obtain ⟨e, ht⟩ := hv.tab hI hc
  simp only [Py.bindStarC, bindStarC, show (view g st).h = g st.h from rfl, e]
  cases starNames W.cfg (st.h.tab c) with
  | some l => exact hv.from_ hc _ hI
  | none => exact ⟨by rw [(hv.star _ ht hI).1], (hv.star _ ht hI).2⟩

end View

end

def OutV (V : Val → Prop) : Out → Prop
  | .ret v => V v
  | _ => True

def ValV (V : Val → Prop) : Except Exc Val → Prop
  | .ok v => V v
  | _ => True

def ModV (V : Val → Prop) : Except Exc (Option Nat) → Prop
  | .ok (some c) => V (.mod c)
  | _ => True

theorem ValV.outOfBody {V : Val → Prop} (h0 : V .none) {o : Out} (h : OutV V o) : ValV V (outOfBody o) := by
  cases o with
  | norm => exact h0
  | ret v => exact h
  | exc e => trivial

section
variable (g : Heap → Heap) (I : St → Prop) (V : Val → Prop)

/-- the model's result `r` from `st` against the reference's `r'` from `view g st` -/
structure Sim (st : St) (r : Res) (r' : Py.PRes) : Prop where
  s : r'.s = view g r.st
  out : r'.out = r.out
  same : Same st.p r.st.p
  inv : I r.st
  ret : OutV V r.out

structure SimV (st : St) (r : ResV) (r' : Py.PResV) : Prop where
  s : r'.s = view g r.st
  val : r'.val = r.val
  ptrs : r.st.p = st.p
  inv : I r.st
  ok : ValV V r.val

structure SimM (st : St) (r : ResM) (r' : Py.PResM) : Prop where
  s : r'.s = view g r.st
  val : r'.val = r.val
  ptrs : r.st.p = st.p
  inv : I r.st
  ok : ModV V r.val

end

section
variable {W : World} {g : Heap → Heap} {I : St → Prop} {V : Val → Prop} {st st' : St}

namespace Sim

theorem leaf (hI : I st) {o : Out} (ho : OutV V o) : Sim g I V st ⟨st, o⟩ ⟨view g st, o⟩ :=
  ⟨rfl, rfl, Same.refl _, hI, ho⟩

theorem assign (hv : View W g I V) (h : Same st.p st'.p) (hI : I st') (x : String) {v : Val} (hx : V v) :
    Sim g I V st ⟨assignVar st' x v, .norm⟩ ⟨Py.assignVar (view g st') x v, .norm⟩ := by
  rw [(hv.assign x hI hx).1]
  exact ⟨rfl, rfl, h.trans (quiet_assignVar st' x v).same, (hv.assign x hI hx).2, trivial⟩

theorem write (hv : View W g I V) (h : Same st.p st'.p) (hI : I st') (x : String) {v : Val} (hx : V v) :
    Sim g I V st ⟨writeSym st' x v, .norm⟩ ⟨Py.writeSym (view g st') x v, .norm⟩ := by
  rw [(hv.write x hI hx).1]
  exact ⟨rfl, rfl, h.trans (quiet_writeSym st' x v).same, (hv.write x hI hx).2, trivial⟩

theorem ofBind {p : St × Option Exc} (h : Same st.p p.1.p) (hI : I p.1) :
    Sim g I V st (match (generalizing := false) p with
                  | (st', none) => ⟨st', .norm⟩
                  | (st', some e) => ⟨st', .exc e⟩)
                 (match (view g p.1, p.2) with
                  | (s', none) => ⟨s', .norm⟩
                  | (s', some e) => ⟨s', .exc e⟩) := by
  obtain ⟨st', o⟩ := p
  cases o with
  | none => exact ⟨rfl, rfl, h, hI, trivial⟩
  | some e => exact ⟨rfl, rfl, h, hI, trivial⟩

end Sim

namespace SimM

/-- the four import statements: `module_import`, then on success a binding step `k` from the state it left -/
theorem andThen {r : ResM} {r' : Py.PResM} (h : SimM g I V st r r') {k : Nat → Res} {k' : Nat → Py.PRes}
    (hk : ∀ c, V (.mod c) → Same st.p r.st.p → r'.s = view g r.st → Sim g I V st (k c) (k' c)) :
    Sim g I V st (match r.val with
                  | .error e => ⟨r.st, .exc e⟩
                  | .ok none => ⟨r.st, .exc .notFound⟩
                  | .ok (some c) => k c)
                 (match r'.val with
                  | .error e => ⟨r'.s, .exc e⟩
                  | .ok none => ⟨r'.s, .exc .notFound⟩
                  | .ok (some c) => k' c) := by
  have hs : Same st.p r.st.p := h.ptrs ▸ Same.refl _
  rw [h.val]
  cases hr : r.val with
  | error e => exact ⟨h.s, rfl, hs, h.inv, trivial⟩
  | ok o =>
    cases o with
    | none => exact ⟨h.s, rfl, hs, h.inv, trivial⟩
    | some c => exact hk c (by have := h.ok; rwa [hr] at this) hs h.s

end SimM

end

/-- the reference call does not depend on the caller's environment and hands it back untouched -/
theorem Py.callFn_env (W : World) (n : Nat) (h : Heap) (e e2 : Env) (fv : Val) (vs : List Val) :
    Py.callFn W n ⟨h, e2⟩ fv vs = ⟨⟨(Py.callFn W n ⟨h, e⟩ fv vs).s.h, e2⟩, (Py.callFn W n ⟨h, e⟩ fv vs).val⟩ := by
  rcases callFn_cases W n fv vs with ⟨x, _, h1⟩ | ⟨m, c, fid, fd, l, _, _, _, _, _, h1⟩
  · rw [h1, h1]
  · rw [h1, h1]

theorem simAll {W : World} (hW : W.NoSet) {g : Heap → Heap} {I : St → Prop} {V : Val → Prop} (hv : View W g I V) : ∀ n,
    (∀ st s, I st → noSetS s = true → Sim g I V st (execStmt W n st s) (Py.execStmt W n (view g st) s)) ∧
    (∀ st b, I st → noSetB b = true → Sim g I V st (execBlock W n st b) (Py.execBlock W n (view g st) b)) ∧
    (∀ st fv vs, I st → V fv → (∀ v ∈ vs, V v) →
      SimV g I V st (callFn W n st fv vs) (Py.callFn W n (view g st) fv vs)) ∧
    (∀ st m lvl, I st → SimM g I V st (importMod W n st m lvl) (Py.importMod W n (view g st) m lvl)) := by
  intro n
  induction n with
  | zero =>
    exact ⟨fun _ _ hI _ => .leaf hI trivial, fun _ _ hI _ => .leaf hI trivial,
      fun _ _ _ hI _ _ => ⟨rfl, rfl, rfl, hI, trivial⟩, fun _ _ _ hI => ⟨rfl, rfl, rfl, hI, trivial⟩⟩
  | succ n ih =>
    obtain ⟨ihS, ihB, ihC, ihM⟩ := ih
    refine ⟨?_, ?_, ?_, ?_⟩
    · intro st s hI hs
      have hc := hv.coh hI
      have fail : ∀ e, Sim g I V st ⟨st, .exc e⟩ ⟨view g st, .exc e⟩ := fun _ => .leaf hI trivial
      cases s with
      | assign x a =>
        simp only [execStmt, Py.execStmt, (hv.atom hI a).1]
        cases ha : evalAtom st a with
        | error e => exact fail e
        | ok v => exact .assign hv (Same.refl _) hI x ((hv.atom hI a).2 v ha)
      | add x a b =>
        simp only [execStmt, Py.execStmt, (hv.atom hI a).1, (hv.atom hI b).1]
        cases evalAtom st a with
        | error e => exact fail e
        | ok va =>
          simp only
          cases evalAtom st b with
          | error e => exact fail e
          | ok vb =>
            simp only
            cases hab : addVals va vb with
            | error e => exact fail e
            | ok v => exact .assign hv (Same.refl _) hI x (hv.add hab)
      | setattr m a v =>
        simp only [execStmt, Py.execStmt, (hv.atom hI v).1, (hv.name m hI).1]
        cases hw : evalAtom st v with
        | error e => exact fail e
        | ok w =>
          simp only
          cases hm : lookupVar st m with
          | error e => exact fail e
          | ok mv =>
            cases mv with
            | mod c =>
              obtain ⟨e, hI'⟩ := hv.setKey a hI ((hv.name m hI).2 _ hm) ((hv.atom hI v).2 _ hw)
              exact ⟨congrArg (fun h => (⟨h, envOf st.p⟩ : PSt)) e, rfl, Same.refl _, hI', trivial⟩
            | _ => exact fail _
      | call x f args =>
        simp only [execStmt, Py.execStmt, (hv.atom hI f).1, (hv.atoms hI args).1]
        cases hf : evalAtom st f with
        | error e => exact fail e
        | ok fv =>
          simp only
          cases ha : evalAtoms st args with
          | error e => exact fail e
          | ok vs =>
            have hC := ihC st fv vs hI ((hv.atom hI f).2 _ hf) ((hv.atoms hI args).2 _ ha)
            have hs : Same st.p (callFn W n st fv vs).st.p := hC.ptrs ▸ Same.refl _
            simp only [hC.s, hC.val]
            cases hr : (callFn W n st fv vs).val with
            | error e => exact ⟨rfl, rfl, hs, hC.inv, trivial⟩
            | ok v => exact .assign hv hs hC.inv x (by have := hC.ok; rwa [hr] at this)
      | spawn own f args =>
        simp only [execStmt, Py.execStmt, (hv.atom hI f).1, (hv.atoms hI args).1]
        cases hf : evalAtom st f with
        | error e => exact fail e
        | ok fv =>
          simp only
          cases ha : evalAtoms st args with
          | error e => exact fail e
          | ok vs =>
            simp only
            -- the reference runs the spawned call under the caller's environment, the model on fresh pointers:
            -- same heap and result by `Py.callFn_env`
            have hfv := (hv.atom hI f).2 _ hf
            have hI' := hv.spawn own hI hfv
            generalize (if own = true then fnCtx fv st.p.gctx else st.p.gctx) = c at hI' ⊢
            have hC := ihC { st with p := fresh c } fv vs hI' hfv ((hv.atoms hI args).2 _ ha)
            have c1 := hC.s
            rw [show view g { st with p := fresh c } = ⟨g st.h, envOf (fresh c)⟩ from rfl,
              Py.callFn_env W n (g st.h) (envOf st.p)] at c1
            refine ⟨?_, rfl, Same.refl _, hv.back hI hC.inv, trivial⟩
            rw [show view g st = ⟨g st.h, envOf st.p⟩ from rfl, Py.callFn_env W n (g st.h) (envOf st.p) (envOf st.p)]
            exact congrArg (fun s : PSt => (⟨s.h, envOf st.p⟩ : PSt)) c1
      | setAll l => simp only [execStmt, Py.execStmt]; exact .assign hv (Same.refl _) hI _ (hv.consts.2.2 l)
      | defn x fid =>
        simp only [execStmt, Py.execStmt]
        rw [show (view g st).env.g = st.p.gctx from hc.1]
        exact .assign hv (Same.refl _) hI x ((hv.cur hI).2 fid)
      | ret a =>
        simp only [execStmt, Py.execStmt, (hv.atom hI a).1]
        cases ha : evalAtom st a with
        | error e => exact fail e
        | ok v => exact .leaf hI ((hv.atom hI a).2 v ha)
      | raise k => exact fail _
      | try_ body handler =>
        simp only [noSetS, Bool.and_eq_true] at hs
        simp only [execStmt, Py.execStmt]
        have h1 := ihB st body hI hs.1
        rw [h1.out]
        cases ho : (execBlock W n st body).out with
        | exc e =>
          simp only
          split
          · exact h1
          · rw [h1.s]
            have h2 := ihB _ handler h1.inv hs.2
            exact ⟨h2.s, h2.out, h1.same.trans h2.same, h2.inv, h2.ret⟩
        | _ => exact h1
      | import_ m asn =>
        simp only [execStmt, Py.execStmt]
        have hM := ihM st m 0 hI
        refine hM.andThen fun c hc h e => ?_
        rw [e]
        exact .write hv h hM.inv _ hc
      | fromDot lvl nm asn =>
        simp only [execStmt, Py.execStmt]
        have hM := ihM st [nm] lvl hI
        refine hM.andThen fun c hc h e => ?_
        rw [e]
        exact .write hv h hM.inv _ hc
      | from_ m lvl names =>
        simp only [execStmt, Py.execStmt]
        have hM := ihM st m lvl hI
        refine hM.andThen fun c hc h e => ?_
        rw [e, (hv.from_ hc names hM.inv).1]
        exact .ofBind (h.trans (quiet_bindFrom c names _).same) (hv.from_ hc names hM.inv).2
      | fromStar m lvl =>
        simp only [execStmt, Py.execStmt]
        have hM := ihM st m lvl hI
        refine hM.andThen fun c hc h e => ?_
        rw [e, (hv.starC hM.inv hc).1]
        exact .ofBind (h.trans (quiet_bindStarC W.cfg c _).same) (hv.starC hM.inv hc).2
      | setctx nm => simp [noSetS] at hs
    · intro st b hI hb
      cases b with
      | nil => exact .leaf hI trivial
      | cons s rest =>
        simp only [noSetB, Bool.and_eq_true] at hb
        simp only [execBlock, Py.execBlock]
        have h1 := ihS st s hI hb.1
        rw [h1.out, h1.s]
        cases ho : (execStmt W n st s).out with
        | norm =>
          have h2 := ihB _ rest h1.inv hb.2
          exact ⟨h2.s, h2.out, h1.same.trans h2.same, h2.inv, h2.ret⟩
        | _ => exact h1
    · intro st fv vs hI hfv hvs
      rcases callFn_cases W (n+1) fv vs with ⟨e, h1, h2⟩ | ⟨m, c, fid, fd, l, hn, rfl, hf, hl, h1, h2⟩
      · rw [h1, h2]; exact ⟨rfl, rfl, rfl, hI, trivial⟩
      · cases hn
        have hS := ihB { st with p := enterCall st.p c l fd.globals } fd.body (hv.enter fd.globals hI hfv hvs hl)
          (hW.funcs fd (List.mem_of_getElem? hf))
        rw [show view g { st with p := enterCall st.p c l fd.globals }
            = ⟨g st.h, { g := c, locals := some l, gnames := some fd.globals }⟩ by
              simp only [view, envOf_enterCall (hv.coh hI)]] at hS
        have hleave := leaveCall_enterCall c l fd.globals hS.same
        rw [h1, h2, show (view g st).h = g st.h from rfl]
        simp only [hleave]
        exact ⟨by rw [hS.s]; rfl, by rw [hS.out], rfl, hv.back hI hS.inv, .outOfBody hv.consts.1 hS.ret⟩
    · intro st m lvl hI
      simp only [importMod, Py.importMod]
      rw [show (view g st).env.g = st.p.gctx from (hv.coh hI).1, show (view g st).h = g st.h from rfl, (hv.lookup m lvl hI).1]
      cases hl : importLookup W st.h st.p.gctx m lvl with
      | err e => exact ⟨rfl, rfl, rfl, hI, trivial⟩
      | found c => exact ⟨rfl, rfl, rfl, hI, (hv.lookup m lvl hI).2 c hl⟩
      | missing => exact ⟨rfl, rfl, rfl, hI, trivial⟩
      | load cd body =>
        simp only
        obtain ⟨_, _, _, hf⟩ := importLookup_load hl
        obtain ⟨hlen, hbeg, hI', hV⟩ := hv.load cd hI
        have hS := ihB { h := loadBegin st.h cd, p := fresh st.h.ctxs.length } body hI'
          (hW.files _ (lookup_mem (findFile_some hf).2))
        rw [show view g { h := loadBegin st.h cd, p := fresh st.h.ctxs.length }
            = ⟨g (loadBegin st.h cd), { g := st.h.ctxs.length, locals := none, gnames := none }⟩ from rfl] at hS
        rw [hlen, hbeg, hS.out, hS.s]
        cases (execBlock W n { h := loadBegin st.h cd, p := fresh st.h.ctxs.length } body).out with
        | exc e => exact ⟨rfl, rfl, rfl, hv.back hI hS.inv, trivial⟩
        | _ =>
          exact ⟨congrArg (fun h => (⟨h, envOf st.p⟩ : PSt)) (hv.commit cd hI hS.inv hV).1, rfl, rfl,
            (hv.commit cd hI hS.inv hV).2, hV⟩

end PsModel.C11
