import PsModel.Model.C18
import PsModel.Spec.C18
/-!
# C18 lemmas

The formatter: one equation for an `aeval` frame (`step_aeval`), hence one for a whole block of them (`run_aevals`),
for an activation, a chain, a file body, an import.  One occurrence of a trigger (`serve`) and the load pass
(`loadAllC`) in terms of the reference functions.
-/
namespace PsModel.C18

theorem run_append (c : Cfg) (s : FState) (a b : List Frame) : runC c s (a ++ b) = runC c (runC c s a) b :=
  List.foldl_append

theorem run_cons (c : Cfg) (s : FState) (f : Frame) (r : List Frame) : runC c s (f :: r) = runC c (stepC c s f) r := rfl

theorem run_others (c : Cfg) (s : FState) (n : Nat) : runC c s (List.replicate n .other) = s := by
  induction n with
  | zero => rfl
  | succ k ih => rw [List.replicate_succ, run_cons]; exact ih

/-- what `ast_frame` does to the stack: an entry of the same file and function as the one on top replaces it -/
def push (e : Entry) : List Entry → List Entry
  | last :: rest => if e.file = last.file ∧ e.func = last.func then e :: rest else e :: last :: rest
  | [] => [e]

theorem astFrame_eq (s : FState) (cn : String) :
    astFrame s cn = { s with rstack := push { file := s.curFile.getD "", func := entryFunc s.curFunc (s.curFile.getD "") cn,
                                               line := s.line, isReal := false } s.rstack } := by
  rcases s with ⟨g, f, l, R, cx, fe⟩
  cases R with
  | nil => rfl
  | cons e0 R' =>
    simp only [astFrame, push]
    split <;> rfl

/-- the entry on top of `R`, if any, is not of the file and function of `e` -/
def NoMerge (e : Entry) (R : List Entry) : Prop := ∀ e0 R', R = e0 :: R' → ¬(e0.file = e.file ∧ e0.func = e.func)

theorem noMerge_nil (e : Entry) : NoMerge e [] := fun _ _ h => nomatch h

theorem push_of_noMerge {e : Entry} {R : List Entry} (h : NoMerge e R) : push e R = e :: R := by
  cases R with
  | nil => rfl
  | cons e0 R' => exact if_neg fun hh => h e0 R' rfl ⟨hh.1.symm, hh.2.symm⟩

theorem push_push {e e' : Entry} (hf : e'.file = e.file) (hg : e'.func = e.func) (R : List Entry) :
    push e' (push e R) = push e' R := by
  cases R with
  | nil => simp only [push, hf, hg, and_self, if_true]
  | cons e0 R' =>
    by_cases h : e.file = e0.file ∧ e.func = e0.func
    · simp only [push, hf, hg, h, and_self, if_true]
    · simp only [push, hf, hg, h, and_self, if_true, if_false]

/-- the formatter is inside evaluator `c0` and the latest `aeval` frame was not preceded by `EvalFunc.call` -/
def Inv (s : FState) (c0 : Nat) : Prop := s.funcEntered = false ∧ s.curCtx = some c0

theorem inv_enterCtx (c : Cfg) (s : FState) (ctx : Nat) : Inv (enterCtx c s ctx) ctx := by
  unfold enterCtx
  by_cases h : s.curCtx = some ctx
  · rw [if_pos h]; exact ⟨rfl, h⟩
  · rw [if_neg h]; split <;> exact ⟨rfl, rfl⟩

theorem enterCtx_of_inv (c : Cfg) {s : FState} {ctx : Nat} (h : Inv s ctx) : enterCtx c s ctx = s := by
  cases s
  cases h.1
  exact if_pos h.2

theorem enterCtx_keeps (c : Cfg) (s : FState) (ctx : Nat) (h : s.funcEntered = true ∨ s.curCtx = none) :
    enterCtx c s ctx = { s with curCtx := some ctx, funcEntered := false } := by
  cases s
  rcases h with rfl | rfl <;> simp [enterCtx]

theorem enterCtx_init (c : Cfg) (ctx : Nat) : enterCtx c {} ctx = { curCtx := some ctx } :=
  enterCtx_keeps c {} ctx (.inr rfl)

theorem enterCtx_reset {s : FState} {c0 : Nat} (h : Inv s c0) {ctx : Nat} (hne : c0 ≠ ctx) :
    enterCtx Cfg.current s ctx = { s with curFunc := none, curFile := none, curCtx := some ctx, funcEntered := false } := by
  cases s
  cases h.1
  cases h.2
  simp [enterCtx, Cfg.current, hne]

def landed (u : FState) (cf cn : String) (l : Nat) : FState :=
  { u with curFile := some (u.curFile.getD cf), line := l,
           rstack := push { file := u.curFile.getD cf, func := entryFunc u.curFunc (u.curFile.getD cf) cn, line := l,
                            isReal := false } u.rstack }

theorem step_aeval (c : Cfg) (t : FState) (ctx : Nat) (cf cn : String) (l : Nat) :
    stepC c t (.aeval ctx cf cn (some l)) = landed (enterCtx c t ctx) cf cn l := by
  simp only [stepC, astFrame_eq, landed]
  generalize enterCtx c t ctx = u
  rcases u with ⟨g, f, l0, R, cx, fe⟩
  cases f <;> rfl

theorem landed_landed (u : FState) (cf cn : String) (l l' : Nat) :
    landed (landed u cf cn l) cf cn l' = landed u cf cn l' := by
  simp only [landed, Option.getD_some, push_push]

/-- a whole block of `aeval` frames of one evaluator, from any state: only the first frame can change function, file
and evaluator; every further one replaces the entry the first one pushed, so the last line is left -/
theorem run_aevals (c : Cfg) (ctx : Nat) (cf cn : String) (noise last : Nat) (ls : List Nat) (t : FState) :
    runC c t (aevals ctx cf cn noise (ls ++ [last])) = landed (enterCtx c t ctx) cf cn last := by
  induction ls generalizing t with
  | nil => rw [List.nil_append, aevals, run_cons, step_aeval, aevals, List.append_nil, run_others]
  | cons l r ih =>
    rw [List.cons_append, aevals, run_cons, step_aeval, run_append, run_others, ih,
      enterCtx_of_inv c (s := landed _ cf cn l) (inv_enterCtx c t ctx), landed_landed]

def afterAct (a : Act) (R : List Entry) : FState :=
  { curFunc := some a.func, curFile := some a.file, line := a.last, rstack := R, curCtx := some a.ctx, funcEntered := false }

theorem run_act (c : Cfg) (a : Act) (s : FState) : runC c s (actFrames a) = afterAct a (push (triple a) s.rstack) := by
  have entered (s0 : FState) : runC c s0 ([.evalFuncCall a.func a.file] ++ aevals a.ctx a.ctxFile a.ctxName a.noise (a.lines ++ [a.last]))
      = afterAct a (push (triple a) s0.rstack) := by
    rw [List.singleton_append, run_cons, run_aevals, stepC, enterCtx_keeps c _ _ (.inl rfl)]
    rfl
  unfold actFrames
  cases a.viaCallFunc
  · exact entered s
  · have hr : (stepC c s (.callFunc a.func)).rstack = s.rstack := by
      rw [stepC]
      cases s.curFunc.isNone <;> rfl
    rw [if_pos rfl, List.append_assoc, List.singleton_append, run_cons, entered, hr]

theorem framesOf_cons (a : Act) (r : List Act) : framesOf (a :: r) = actFrames a ++ framesOf r := rfl

theorem lastCtx_cons (c0 : Nat) (a : Act) (r : List Act) : lastCtx c0 (a :: r) = lastCtx a.ctx r := by
  unfold lastCtx
  rw [List.getLast?_cons]
  cases r.getLast? <;> rfl

/-- the formatter on ANY chain of activations: the triples are pushed one by one, so consecutive activations of the
same file and function are merged into the innermost one; and it ends inside the evaluator of the innermost activation -/
theorem run_chain (c : Cfg) (chain : List Act) (s : FState) :
    (runC c s (framesOf chain)).rstack = chain.foldl (fun R a => push (triple a) R) s.rstack ∧
    ∀ c0, Inv s c0 → Inv (runC c s (framesOf chain)) (lastCtx c0 chain) := by
  induction chain generalizing s with
  | nil => exact ⟨rfl, fun _ h => h⟩
  | cons a r ih =>
    have ih := ih (afterAct a (push (triple a) s.rstack))
    rw [framesOf_cons, run_append, run_act]
    exact ⟨ih.1, fun c0 _ => lastCtx_cons c0 a r ▸ ih.2 a.ctx ⟨rfl, rfl⟩⟩

theorem fmtC_framesOf (c : Cfg) (chain : List Act) :
    fmtC c (framesOf chain) = (chain.foldl (fun R a => push (triple a) R) []).reverse := by
  rw [fmtC, (run_chain c chain {}).1]

theorem noAdj_tail {a : Act} {r : List Act} (h : NoAdj (a :: r)) : NoAdj r := by
  cases r with
  | nil => trivial
  | cons b t => exact h.2

theorem foldl_push_noAdj (chain : List Act) (R : List Entry) (hn : NoAdj chain)
    (h0 : ∀ a r, chain = a :: r → NoMerge (triple a) R) :
    chain.foldl (fun R a => push (triple a) R) R = (chain.map triple).reverse ++ R := by
  induction chain generalizing R with
  | nil => rfl
  | cons a r ih =>
    rw [List.foldl_cons, push_of_noMerge (h0 a r rfl), ih _ (noAdj_tail hn), List.map_cons, List.reverse_cons,
      List.append_assoc, List.singleton_append]
    intro b t hb e R' he hh
    subst hb
    cases he
    exact hn.1.elim (· hh.1) (· (Option.some.inj hh.2))

theorem foldl_push_nil {chain : List Act} (hn : NoAdj chain) :
    chain.foldl (fun R a => push (triple a) R) [] = (chain.map triple).reverse :=
  (foldl_push_noAdj chain [] hn fun _ _ _ => noMerge_nil _).trans (List.append_nil _)

theorem run_reals (c : Cfg) (rs : List RealFr) (s : FState) :
    runC c s (rs.map RealFr.frame) = { s with rstack := (rs.map RealFr.entry).reverse ++ s.rstack } := by
  induction rs generalizing s with
  | nil => rfl
  | cons r t ih =>
    rw [List.map_cons, run_cons, ih, List.map_cons, List.reverse_cons, List.append_assoc]
    rfl

def afterMod (m : ModAct) (R : List Entry) : FState :=
  { curFunc := none, curFile := some m.file, line := m.last, rstack := R, curCtx := some m.ctx, funcEntered := false }

/-- the body of a file that is being loaded and the chain of functions it calls, entered where the formatter takes
function and file afresh (the very first frame, or – in the current code – a new evaluator after real frames) -/
theorem run_mod_chain (c : Cfg) (m : ModAct) (chain : List Act) (s : FState)
    (hs : enterCtx c s m.ctx = { s with curFunc := none, curFile := none, curCtx := some m.ctx, funcEntered := false })
    (htop : NoMerge (modTriple m) s.rstack) (hn : NoAdj chain) (hfirst : FirstOk m chain) :
    (runC c s (modFrames m ++ framesOf chain)).rstack = (chain.map triple).reverse ++ modTriple m :: s.rstack ∧
    Inv (runC c s (modFrames m ++ framesOf chain)) (lastCtx m.ctx chain) := by
  have hm : runC c s (modFrames m) = afterMod m (modTriple m :: s.rstack) := by
    rw [modFrames, run_aevals, hs, ← push_of_noMerge htop]
    rfl
  have h := run_chain c chain (afterMod m (modTriple m :: s.rstack))
  rw [run_append, hm]
  refine ⟨?_, h.2 m.ctx ⟨rfl, rfl⟩⟩
  rw [h.1]
  refine foldl_push_noAdj chain _ hn fun a r ha e R' he => ?_
  cases he
  exact hfirst a r ha

theorem run_seg (g : Seg) (s : FState) (c0 : Nat) (hinv : Inv s c0) (h : SegOk c0 g) :
    (runC Cfg.current s (segFrames g)).rstack = (segTriples g).reverse ++ s.rstack ∧
    Inv (runC Cfg.current s (segFrames g)) (lastCtx g.m.ctx g.chain) := by
  obtain ⟨hc, ⟨r, hr, hne⟩, hn, hfirst⟩ := h
  -- the frame of the import machinery directly above the file body is on top of the stack, and is not taken for it
  have htop : NoMerge (modTriple g.m) ((g.reals.map RealFr.entry).reverse ++ s.rstack) := by
    obtain ⟨ys, hys⟩ := List.getLast?_eq_some_iff.mp hr
    intro e R he
    rw [hys, List.map_append, List.reverse_append] at he
    cases he
    exact hne
  unfold segFrames
  rw [List.append_assoc, run_append, run_reals]
  have hmc := run_mod_chain Cfg.current g.m g.chain _
    (enterCtx_reset (s := { s with rstack := (g.reals.map RealFr.entry).reverse ++ s.rstack }) hinv hc) htop hn hfirst
  refine ⟨?_, hmc.2⟩
  rw [hmc.1, segTriples, List.reverse_append, List.reverse_cons, List.append_assoc, List.append_assoc,
    List.singleton_append]

theorem run_segs (segs : List Seg) (s : FState) (c0 : Nat) (hinv : Inv s c0) (hok : SegsOk c0 segs) :
    (runC Cfg.current s (segs.flatMap segFrames)).rstack = (segs.flatMap segTriples).reverse ++ s.rstack := by
  induction segs generalizing s c0 with
  | nil => rfl
  | cons g r ih =>
    have h1 := run_seg g s c0 hinv hok.1
    rw [List.flatMap_cons, run_append, ih _ _ h1.2 hok.2, h1.1, List.flatMap_cons, List.reverse_append,
      List.append_assoc]

theorem Occ.byEval {P : Occ → Prop}
    (exprRaises : ∀ e et a at' b, P ⟨.raise e, et, a, at', b⟩) (exprFalse : ∀ a at' b, P ⟨.ok, false, a, at', b⟩)
    (activeRaises : ∀ e at' b, P ⟨.ok, true, .raise e, at', b⟩) (activeFalse : ∀ b, P ⟨.ok, true, .ok, false, b⟩)
    (runs : ∀ b, P ⟨.ok, true, .ok, true, b⟩) : ∀ o, P o
  | ⟨.raise e, et, a, at', b⟩ => exprRaises e et a at' b
  | ⟨.ok, false, a, at', b⟩ => exprFalse a at' b
  | ⟨.ok, true, .raise e, at', b⟩ => activeRaises e at' b
  | ⟨.ok, true, .ok, false, b⟩ => activeFalse b
  | ⟨.ok, true, .ok, true, b⟩ => runs b

theorem fnCaught_eq (sub : Subsys) : fnCaught sub = true := by cases sub <;> rfl

theorem specRecs_length (o : Occ) : (specRecs o).length ≤ 1 := by
  induction o using Occ.byEval
  case runs b => cases b <;> simp [specRecs]
  all_goals simp [specRecs]

/-- the counters of the loop do not depend on who catches the function's exception -/
theorem serve_counters (caught : Bool) (lg : String) (s : Loop) (o : Occ) :
    (serve caught lg s o).subs = s.subs ∧ (serve caught lg s o).served = s.served + 1 ∧
    (serve caught lg s o).runs = s.runs + (if specRuns o then 1 else 0) ∧
    (serve caught lg s o).done = s.done + (if specRuns o && o.body == .ok then 1 else 0) := by
  induction o using Occ.byEval <;> simp [serve, contain, specRuns]

theorem serve_log_caught (lg : String) (s : Loop) (o : Occ) :
    (serve true lg s o).log = s.log ++ (specRecs o).map (scriptRec lg) := by
  induction o using Occ.byEval
  case runs b => cases b <;> simp [serve, contain, specRecs, callAction, scriptRec]
  all_goals simp [serve, contain, specRecs, scriptRec]

theorem serveAll_cons (caught : Bool) (lg : String) (s : Loop) (o : Occ) (os : List Occ) :
    serveAll caught lg s (o :: os) = serveAll caught lg (serve caught lg s o) os := rfl

theorem length_filter_cons {α : Type} (p : α → Bool) (a : α) (l : List α) :
    ((a :: l).filter p).length = (l.filter p).length + if p a then 1 else 0 := by
  rw [← List.countP_eq_length_filter, ← List.countP_eq_length_filter, List.countP_cons]

theorem loadAllC_spec (needsStart : Bool) (files : List SrcFile) (s : Loaded) :
    (loadAllC needsStart files s).contexts = s.contexts ++ specContexts files ∧
    ((loadAllC needsStart files s).log.filter (·.scriptTb)).map (·.logger)
      = (s.log.filter (·.scriptTb)).map (·.logger) ++ (failing files).map (·.name) ∧
    (loadAllC needsStart files s).ran = s.ran ++ (failing files).flatMap (stopUnstarted needsStart) := by
  induction files generalizing s with
  | nil => simp [loadAllC, specContexts, failing]
  | cons f r ih =>
    rw [loadAllC]
    -- either way the hypothesis rewrites the pass over the rest; what is left is the share of `f` in the reference lists
    cases hf : f.loads <;> rw [(ih _).1, (ih _).2.1, (ih _).2.2] <;> simp [specContexts, failing, hf]

end PsModel.C18
