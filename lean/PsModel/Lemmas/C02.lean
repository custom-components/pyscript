import PsModel.Spec.C02
/-! C02: the fragment predicates; inductions on fuel (no escaping jump, no BaseException-only exception, the simulation);
the return-marker store. -/
namespace PsModel.C02

mutual
/-- a `break`/`continue` that is not bound by a loop *inside* the statement (it would act on an enclosing loop) -/
def freeJumpS : Stmt → Bool
  | .brk => true
  | .cont => true
  | .ite _ b o => freeJumpL b || freeJumpL o
  | .while_ _ _ o => freeJumpL o
  | .for_ _ _ o => freeJumpL o
  | .try_ b hs o f => freeJumpL b || freeJumpH hs || freeJumpL o || freeJumpL f
  | .with_ _ b => freeJumpL b
  | _ => false
def freeJumpL : List Stmt → Bool
  | [] => false
  | s :: ss => freeJumpS s || freeJumpL ss
def freeJumpH : List Handler → Bool
  | [] => false
  | .mk _ _ b :: hs => freeJumpL b || freeJumpH hs
end

def withOk (cfg : Cfg) (items : List WItem) : Bool :=
  cfg.withNested || (items.length == 1 && items.all (fun m => m.enterRaises.isNone))

theorem withOk_phases (cfg : Cfg) (items : List WItem) (hn : cfg.withNested = false) (hw : withOk cfg items = true) :
    ∃ m, items = [m] ∧ m.enterRaises = none := by
  simp only [withOk, hn, Bool.false_or, Bool.and_eq_true, beq_iff_eq] at hw
  cases items with
  | nil => exact nomatch hw.1
  | cons m ms =>
    cases ms with
    | nil => exact ⟨m, rfl, by simpa using hw.2⟩
    | cons m2 ms => exact absurd hw.1 (by simp)

def optQuiet : Option Nat → Bool
  | none => true
  | some c => !baseOnly c

def WItem.quiet (m : WItem) : Bool := optQuiet m.enterRaises && optQuiet m.bindRaises && optQuiet m.exitRaises

def HPre.quiet : HPre → Bool
  | .raises _ c => !baseOnly c
  | _ => true

mutual
/-- the fragment on which the code, as configured by `cfg`, follows Python: a node shape is excluded only while its
deviation flag is off.  While `catchesBase` is off (today) the sources of BaseException-only exceptions are excluded:
`raise` of such a class, a suspension point (the task may be cancelled there), managers / clause expressions raising one -/
def confS (cfg : Cfg) : Stmt → Bool
  | .raise c _ => cfg.catchesBase || !baseOnly c
  | .suspend _ => cfg.catchesBase
  | .ite _ b o => confL cfg b && confL cfg o
  | .while_ _ b o => confL cfg b && confL cfg o && (cfg.loopElsePropagates || !freeJumpL o)
  | .for_ _ b o => confL cfg b && confL cfg o && (cfg.loopElsePropagates || !freeJumpL o)
  | .try_ b hs o f => confL cfg b && confH cfg hs && confL cfg o && confL cfg f
  | .with_ items b => confL cfg b && withOk cfg items && (cfg.catchesBase || items.all WItem.quiet)
  | _ => true
def confL (cfg : Cfg) : List Stmt → Bool
  | [] => true
  | s :: ss => confS cfg s && confL cfg ss
def confH (cfg : Cfg) : List Handler → Bool
  | [] => true
  | .mk _ pre b :: hs => confL cfg b && (cfg.catchesBase || pre.quiet) && confH cfg hs
end

mutual
/-- no source of a BaseException-only exception: no `raise` of such a class, no suspension point (the task may be cancelled
there), no manager method / `except` type expression raising one -/
def quietS : Stmt → Bool
  | .raise c _ => !baseOnly c
  | .suspend _ => false
  | .ite _ b o => quietL b && quietL o
  | .while_ _ b o => quietL b && quietL o
  | .for_ _ b o => quietL b && quietL o
  | .try_ b hs o f => quietL b && quietH hs && quietL o && quietL f
  | .with_ items b => quietL b && items.all WItem.quiet
  | _ => true
def quietL : List Stmt → Bool
  | [] => true
  | s :: ss => quietS s && quietL ss
def quietH : List Handler → Bool
  | [] => true
  | .mk _ pre b :: hs => quietL b && pre.quiet && quietH hs
end

mutual
/-- with the loop-else and `with` handlers in their Python shape, only `except Exception` keeps a program out of the fragment -/
theorem confS_eq (cfg : Cfg) (h1 : cfg.loopElsePropagates = true) (h2 : cfg.withNested = true) :
    ∀ s, confS cfg s = (cfg.catchesBase || quietS s)
  | .tick _ | .brk | .cont | .ret _ | .reraise | .assert_ _ => (Bool.or_true _).symm
  | .raise _ _ => rfl
  | .suspend _ => (Bool.or_false _).symm
  | .ite _ b o => by
      simp only [confS, quietS, confL_eq cfg h1 h2 b, confL_eq cfg h1 h2 o, Bool.or_and_distrib_left]
  | .while_ _ b o | .for_ _ b o => by
      simp only [confS, quietS, confL_eq cfg h1 h2 b, confL_eq cfg h1 h2 o, h1, Bool.true_or, Bool.and_true,
        Bool.or_and_distrib_left]
  | .try_ b hs o f => by
      simp only [confS, quietS, confL_eq cfg h1 h2 b, confH_eq cfg h1 h2 hs, confL_eq cfg h1 h2 o, confL_eq cfg h1 h2 f,
        Bool.or_and_distrib_left]
  | .with_ items b => by
      simp only [confS, quietS, confL_eq cfg h1 h2 b, withOk, h2, Bool.true_or, Bool.and_true, Bool.or_and_distrib_left]
theorem confL_eq (cfg : Cfg) (h1 : cfg.loopElsePropagates = true) (h2 : cfg.withNested = true) :
    ∀ ss, confL cfg ss = (cfg.catchesBase || quietL ss)
  | [] => (Bool.or_true _).symm
  | s :: ss => by simp only [confL, quietL, confS_eq cfg h1 h2 s, confL_eq cfg h1 h2 ss, Bool.or_and_distrib_left]
theorem confH_eq (cfg : Cfg) (h1 : cfg.loopElsePropagates = true) (h2 : cfg.withNested = true) :
    ∀ hs, confH cfg hs = (cfg.catchesBase || quietH hs)
  | [] => (Bool.or_true _).symm
  | .mk _ pre b :: hs => by
      simp only [confH, quietH, confL_eq cfg h1 h2 b, confH_eq cfg h1 h2 hs, Bool.or_and_distrib_left]
end

theorem confS_with_tail (cfg : Cfg) (m m2 : WItem) (ms : List WItem) (b : List Stmt)
    (hc : confS cfg (.with_ (m :: m2 :: ms) b) = true) : confS cfg (.with_ (m2 :: ms) b) = true := by
  simp only [confS, withOk, List.all_cons, Bool.and_eq_true, Bool.or_eq_true] at hc ⊢
  obtain ⟨⟨hb, hw⟩, hq⟩ := hc
  exact ⟨⟨hb, Or.inl (hw.resolve_right (by simp))⟩, hq.imp_right And.right⟩

/-- the try/except/else part of `ast_try`: the `try_` arm of `PS.exec` is, by unfolding, `PS.finish` of its result and of the
final body run in the world it leaves (`C02_finally_every_outcome`); likewise `Py.tryPart` and `Py.exec` -/
def PS.tryPart (cfg : Cfg) (sub : Nat → Nat → Bool) (n : Nat) (h : Option Exc) (b : List Stmt) (hs : List Handler)
    (o : List Stmt) (w : World) : Res × World :=
  match PS.stmts cfg sub n h b w with
  | (.exc e, w1) =>
    if skipsHandlers cfg e then (.exc e, w1) else
    match selectHandler sub e hs w1 with
    | (.found hb, w2) => PS.stmts cfg sub n (some e) hb w2
    | (.notFound, w2) => (.exc e, w2)
    | (.raised e2, w2) => (.exc e2, w2)
  | (.ok (some m), w1) => (.ok (some m), w1)
  | (.ok none, w1) => PS.stmts cfg sub n h o w1

def Py.tryPart (sub : Nat → Nat → Bool) (n : Nat) (h : Option Exc) (b : List Stmt) (hs : List Handler)
    (o : List Stmt) (w : World) : Out × World :=
  match Py.block sub n h b w with
  | (.raise e, w1) =>
    match selectHandler sub e hs w1 with
    | (.found hb, w2) => Py.block sub n (some e) hb w2
    | (.notFound, w2) => (.raise e, w2)
    | (.raised e2, w2) => (.raise e2, w2)
  | (.normal, w1) => Py.block sub n h o w1
  | r => r

/-! ### the `except` clause search: what it selects inherits the syntactic conditions on the clause list -/

theorem selectHandler_cons (sub : Nat → Nat → Bool) (e : Exc) (cs : Option (List Nat)) (pre : HPre) (body : List Stmt)
    (tl : List Handler) (w : World) :
    (∃ w', selectHandler sub e (.mk cs pre body :: tl) w = (.found body, w')) ∨
    (∃ i c w', pre = .raises i c ∧ selectHandler sub e (.mk cs pre body :: tl) w = (.raised { cls := c }, w')) ∨
    (∃ w1, selectHandler sub e (.mk cs pre body :: tl) w = selectHandler sub e tl w1) := by
  cases pre with
  | raises i c => exact .inr (.inl ⟨i, c, _, rfl, rfl⟩)
  | _ =>
    cases hm : handlerMatches sub e cs
    · exact .inr (.inr ⟨_, by rw [selectHandler, hm]; rfl⟩)
    · exact .inl ⟨_, by rw [selectHandler, hm]; rfl⟩

theorem selectHandler_confL (cfg : Cfg) (sub : Nat → Nat → Bool) (e : Exc) :
    ∀ hs w hb w', confH cfg hs = true → selectHandler sub e hs w = (.found hb, w') → confL cfg hb = true := by
  intro hs
  induction hs with
  | nil => exact nofun
  | cons hd tl ih =>
    obtain ⟨cs, pre, body⟩ := hd
    intro w hb w' hc h
    simp only [confH, Bool.and_eq_true] at hc
    rcases selectHandler_cons sub e cs pre body tl w with ⟨_, h'⟩ | ⟨_, _, _, _, h'⟩ | ⟨w1, h'⟩ <;> rw [h'] at h
    · cases h; exact hc.1.1
    · cases h
    · exact ih _ hb w' hc.2 h

theorem selectHandler_raised_nb (cfg : Cfg) (hcb : cfg.catchesBase = false) (sub : Nat → Nat → Bool) (e : Exc) :
    ∀ hs w e2 w', confH cfg hs = true → selectHandler sub e hs w = (.raised e2, w') → baseOnly e2.cls = false := by
  intro hs
  induction hs with
  | nil => exact nofun
  | cons hd tl ih =>
    obtain ⟨cs, pre, body⟩ := hd
    intro w e2 w' hc h
    simp only [confH, Bool.and_eq_true, hcb, Bool.false_or] at hc
    rcases selectHandler_cons sub e cs pre body tl w with ⟨_, h'⟩ | ⟨_, _, _, rfl, h'⟩ | ⟨w1, h'⟩ <;> rw [h'] at h
    · cases h
    · cases h; simpa [HPre.quiet] using hc.1.2
    · exact ih _ e2 w' hc.2 h

theorem selectHandler_free (sub : Nat → Nat → Bool) (e : Exc) :
    ∀ hs w hb w', freeJumpH hs = false → selectHandler sub e hs w = (.found hb, w') → freeJumpL hb = false := by
  intro hs
  induction hs with
  | nil => exact nofun
  | cons hd tl ih =>
    obtain ⟨cs, pre, body⟩ := hd
    intro w hb w' hc h
    simp only [freeJumpH, Bool.or_eq_false_iff] at hc
    rcases selectHandler_cons sub e cs pre body tl w with ⟨_, h'⟩ | ⟨_, _, _, _, h'⟩ | ⟨w1, h'⟩ <;> rw [h'] at h
    · cases h; exact hc.1
    · cases h
    · exact ih _ hb w' hc.2 h

/-! ### the reference combinators preserve a property of outcomes -/

theorem finish_inv (P : Out → Prop) (p : Out) (r : Out × World) (hp : P p) (hr : P r.1) : P (Py.finish p r).1 := by
  rcases r with ⟨o, w⟩
  cases o with
  | normal => exact hp
  | _ => exact hr

theorem exit1_inv (P : Out → Prop) (m : WItem) (r : Out × World) (hn : P .normal)
    (hx : ∀ c, m.exitRaises = some c → P (.raise { cls := c })) (hr : P r.1) : P (Py.exit1 m r).1 := by
  rcases r with ⟨o, w⟩
  cases o with
  | raise e =>
    simp only [Py.exit1]
    cases hc : m.exitRaises with
    | some c => exact hx c hc
    | none => cases m.suppress; exact hr; exact hn
  | _ =>
    simp only [Py.exit1]
    cases hc : m.exitRaises with
    | some c => exact hx c hc
    | none => exact hr

/-- one iteration of a loop: the next iteration, the end of the loop, or the way the body ended -/
theorem iter_inv (P : Out → Prop) (r : Out × World) (k : World → Out × World) (hn : P .normal) (hk : ∀ w', P (k w').1)
    (hr : r.1 ≠ .normal → r.1 ≠ .cont → r.1 ≠ .brk → P r.1) :
    P (match r with
      | (.normal, w') => k w'
      | (.cont, w') => k w'
      | (.brk, w') => (.normal, w')
      | r => r).1 := by
  rcases r with ⟨o, w⟩
  cases o with
  | normal => exact hk w
  | cont => exact hk w
  | brk => exact hn
  | _ => exact hr nofun nofun nofun

theorem tryPart_inv (P : Out → Prop) (sub : Nat → Nat → Bool) (n : Nat) (h : Option Exc) (b : List Stmt) (hs : List Handler)
    (o : List Stmt) (w : World) (hb : P (Py.block sub n h b w).1) (ho : ∀ w1, P (Py.block sub n h o w1).1)
    (hf : ∀ e w1 hbod w2, (Py.block sub n h b w).1 = .raise e → selectHandler sub e hs w1 = (.found hbod, w2) →
      P (Py.block sub n (some e) hbod w2).1)
    (hr : ∀ e w1 e2 w2, selectHandler sub e hs w1 = (.raised e2, w2) → P (.raise e2)) :
    P (Py.tryPart sub n h b hs o w).1 := by
  simp only [Py.tryPart]
  rcases hr1 : Py.block sub n h b w with ⟨o1, w1⟩
  rw [hr1] at hb hf
  cases o1 with
  | normal => exact ho w1
  | raise e =>
    simp only
    rcases hsel : selectHandler sub e hs w1 with ⟨sel, w2⟩
    cases sel with
    | notFound => exact hb
    | raised e2 => exact hr e w1 e2 w2 hsel
    | found hbod => exact hf e w1 hbod w2 rfl hsel
  | _ => exact hb

/-! ### a block without free jumps never completes with break/continue (reference semantics) -/

def NoJumpOut (o : Out) : Prop := o ≠ .brk ∧ o ≠ .cont

theorem nojump_normal : NoJumpOut .normal := ⟨nofun, nofun⟩
theorem nojump_ret (v : Nat) : NoJumpOut (.ret v) := ⟨nofun, nofun⟩
theorem nojump_raise (e : Exc) : NoJumpOut (.raise e) := ⟨nofun, nofun⟩

def NJ (sub : Nat → Nat → Bool) (n : Nat) : Prop :=
  (∀ h s w, freeJumpS s = false → NoJumpOut (Py.exec sub n h s w).1) ∧
  (∀ h ss w, freeJumpL ss = false → NoJumpOut (Py.block sub n h ss w).1) ∧
  (∀ h i b o w, freeJumpL o = false → NoJumpOut (Py.whileLoop sub n h i b o w).1) ∧
  (∀ h k b o w, freeJumpL o = false → NoJumpOut (Py.forLoop sub n h k b o w).1)

theorem nj_all (sub : Nat → Nat → Bool) : ∀ n, NJ sub n := by
  intro n
  induction n with
  | zero => refine ⟨?_, ?_, ?_, ?_⟩ <;> intros <;> exact nojump_normal
  | succ n ih =>
    obtain ⟨ihE, ihB, ihW, ihF⟩ := ih
    refine ⟨?_, ?_, ?_, ?_⟩
    · intro h s w hf
      cases s with
      | tick i => exact nojump_normal
      | brk | cont => exact nomatch hf
      | ret v => exact nojump_ret v
      | raise c cause => exact nojump_raise _
      | reraise => cases h <;> exact nojump_raise _
      | assert_ i =>
        unfold Py.exec
        rcases w.ask i with ⟨_ | c, w1⟩
        · exact nojump_raise _
        · exact nojump_normal
      | suspend i =>
        unfold Py.exec
        rcases w.suspend i with ⟨_ | e, w1⟩
        · exact nojump_normal
        · exact nojump_raise e
      | ite i b o =>
        simp only [freeJumpS, Bool.or_eq_false_iff] at hf
        unfold Py.exec
        rcases w.ask i with ⟨_ | c, w1⟩
        · exact ihB _ _ _ hf.2
        · exact ihB _ _ _ hf.1
      | while_ i b o => exact ihW _ _ _ _ _ hf
      | for_ i b o => exact ihF _ _ _ _ _ hf
      | try_ b hs o f =>
        simp only [freeJumpS, Bool.or_eq_false_iff] at hf
        obtain ⟨⟨⟨hb, hh⟩, ho⟩, hfin⟩ := hf
        exact finish_inv NoJumpOut _ _
          (tryPart_inv _ sub n h b hs o w (ihB _ _ _ hb) (fun _ => ihB _ _ _ ho)
            (fun e w1 hbod w2 _ hsel => ihB _ _ _ (selectHandler_free sub e hs w1 hbod w2 hh hsel))
            (fun _ _ e2 _ _ => nojump_raise e2))
          (ihB _ _ _ hfin)
      | with_ items b =>
        simp only [freeJumpS] at hf
        unfold Py.exec
        cases items with
        | nil => exact ihB _ _ _ hf
        | cons m ms =>
          simp only
          cases m.enterRaises with
          | some c => exact nojump_raise _
          | none =>
            refine exit1_inv _ m _ nojump_normal (fun _ _ => nojump_raise _) ?_
            cases m.bindRaises with
            | some c => exact nojump_raise _
            | none =>
              cases ms with
              | nil => exact ihB _ _ _ hf
              | cons m2 ms2 => exact ihE _ _ _ hf
    · intro h ss w hf
      cases ss with
      | nil => exact nojump_normal
      | cons s ss =>
        simp only [freeJumpL, Bool.or_eq_false_iff] at hf
        simp only [Py.block]
        have h1 := ihE h s w hf.1
        generalize Py.exec sub n h s w = r at h1 ⊢
        rcases r with ⟨o1, w1⟩
        cases o1 with
        | normal => exact ihB _ _ _ hf.2
        | _ => exact h1
    · intro h i b o w hf
      unfold Py.whileLoop
      rcases w.ask i with ⟨_ | c, w0⟩
      · exact ihB _ _ _ hf
      · exact iter_inv _ _ _ nojump_normal (fun _ => ihW _ _ _ _ _ hf) fun _ hc hb => ⟨hb, hc⟩
    · intro h k b o w hf
      cases k with
      | zero => exact ihB _ _ _ hf
      | succ k => exact iter_inv _ _ _ nojump_normal (fun _ => ihF _ _ _ _ _ hf) fun _ hc hb => ⟨hb, hc⟩

/-! ### on the fragment of a configuration with `catchesBase` off no BaseException-only exception ever arises -/

theorem baseOnly_runtimeError : baseOnly runtimeError = false := by decide
theorem baseOnly_assertionError : baseOnly assertionError = false := by decide

def NBOut (o : Out) : Prop := ∀ e, o = .raise e → baseOnly e.cls = false
def HNB (h : Option Exc) : Prop := ∀ e, h = some e → baseOnly e.cls = false

theorem nbout_normal : NBOut .normal := nofun

theorem nbout_raise {e : Exc} (he : baseOnly e.cls = false) : NBOut (.raise e) := fun _ h => by cases h; exact he

theorem hnb_some {e : Exc} (he : baseOnly e.cls = false) : HNB (some e) := fun _ h => by cases h; exact he

theorem nbout_opt {x : Option Nat} {c : Nat} (hq : optQuiet x = true) (hx : x = some c) : NBOut (.raise { cls := c }) := by
  subst hx
  exact nbout_raise (by simpa [optQuiet] using hq)

theorem handlingIn_nb (p : Out) (h : Option Exc) (hp : NBOut p) (hh : HNB h) : HNB (Py.handlingIn p h) := by
  cases p with
  | raise e => exact hnb_some (hp e rfl)
  | _ => exact hh

def NB (cfg : Cfg) (sub : Nat → Nat → Bool) (n : Nat) : Prop :=
  (∀ h s w, HNB h → confS cfg s = true → NBOut (Py.exec sub n h s w).1) ∧
  (∀ h ss w, HNB h → confL cfg ss = true → NBOut (Py.block sub n h ss w).1) ∧
  (∀ h i b o w, HNB h → confL cfg b = true → confL cfg o = true → NBOut (Py.whileLoop sub n h i b o w).1) ∧
  (∀ h k b o w, HNB h → confL cfg b = true → confL cfg o = true → NBOut (Py.forLoop sub n h k b o w).1)

theorem tryPart_nb (cfg : Cfg) (hcb : cfg.catchesBase = false) (sub : Nat → Nat → Bool) (n : Nat) (ih : NB cfg sub n)
    (h : Option Exc) (b : List Stmt) (hs : List Handler) (o : List Stmt) (w : World) (hh : HNB h)
    (hb : confL cfg b = true) (hhs : confH cfg hs = true) (ho : confL cfg o = true) :
    NBOut (Py.tryPart sub n h b hs o w).1 :=
  have hb1 := ih.2.1 h b w hh hb
  tryPart_inv _ sub n h b hs o w hb1 (fun _ => ih.2.1 _ _ _ hh ho)
    (fun e w1 hbod w2 he hsel =>
      ih.2.1 _ _ _ (hnb_some (hb1 e he)) (selectHandler_confL cfg sub e hs w1 hbod w2 hhs hsel))
    (fun e w1 e2 w2 hsel => nbout_raise (selectHandler_raised_nb cfg hcb sub e hs w1 e2 w2 hhs hsel))

theorem nb_all (cfg : Cfg) (hcb : cfg.catchesBase = false) (sub : Nat → Nat → Bool) : ∀ n, NB cfg sub n := by
  intro n
  induction n with
  | zero => refine ⟨?_, ?_, ?_, ?_⟩ <;> intros <;> exact nbout_normal
  | succ n ih =>
    obtain ⟨ihE, ihB, ihW, ihF⟩ := ih
    refine ⟨?_, ?_, ?_, ?_⟩
    · intro h s w hh hc
      cases s with
      | tick i | brk | cont | ret v => exact nofun
      | raise c cause =>
        simp only [confS, hcb, Bool.false_or, Bool.not_eq_true'] at hc
        exact nbout_raise hc
      | reraise =>
        cases h with
        | none => exact nbout_raise baseOnly_runtimeError
        | some e0 => exact nbout_raise (hh e0 rfl)
      | assert_ i =>
        unfold Py.exec
        rcases w.ask i with ⟨_ | c, w1⟩
        · exact nbout_raise baseOnly_assertionError
        · exact nbout_normal
      | suspend i => simp [confS, hcb] at hc
      | ite i b o =>
        simp only [confS, Bool.and_eq_true] at hc
        unfold Py.exec
        rcases w.ask i with ⟨_ | c, w1⟩
        · exact ihB _ _ _ hh hc.2
        · exact ihB _ _ _ hh hc.1
      | while_ i b o =>
        simp only [confS, Bool.and_eq_true] at hc
        exact ihW _ _ _ _ _ hh hc.1.1 hc.1.2
      | for_ i b o =>
        simp only [confS, Bool.and_eq_true] at hc
        exact ihF _ _ _ _ _ hh hc.1.1 hc.1.2
      | try_ b hs o f =>
        simp only [confS, Bool.and_eq_true] at hc
        obtain ⟨⟨⟨hb, hhs⟩, ho⟩, hfin⟩ := hc
        have hp := tryPart_nb cfg hcb sub n ⟨ihE, ihB, ihW, ihF⟩ h b hs o w hh hb hhs ho
        exact finish_inv NBOut _ _ hp (ihB _ _ _ (handlingIn_nb _ _ hp hh) hfin)
      | with_ items b =>
        have hc' := hc
        simp only [confS, Bool.and_eq_true, hcb, Bool.false_or] at hc'
        obtain ⟨⟨hb, _⟩, hq⟩ := hc'
        unfold Py.exec
        cases items with
        | nil => exact ihB _ _ _ hh hb
        | cons m ms =>
          simp only [List.all_cons, Bool.and_eq_true, WItem.quiet] at hq
          obtain ⟨⟨⟨hqe, hqb⟩, hqx⟩, _⟩ := hq
          simp only
          cases hme : m.enterRaises with
          | some c => exact nbout_opt hqe hme
          | none =>
            refine exit1_inv _ m _ nbout_normal (fun c hx => nbout_opt hqx hx) ?_
            cases hmb : m.bindRaises with
            | some c => exact nbout_opt hqb hmb
            | none =>
              cases ms with
              | nil => exact ihB _ _ _ hh hb
              | cons m2 ms2 => exact ihE _ _ _ hh (confS_with_tail cfg m m2 ms2 b hc)
    · intro h ss w hh hc
      cases ss with
      | nil => exact nbout_normal
      | cons s ss =>
        simp only [confL, Bool.and_eq_true] at hc
        simp only [Py.block]
        have h1 := ihE h s w hh hc.1
        generalize Py.exec sub n h s w = r at h1 ⊢
        rcases r with ⟨o1, w1⟩
        cases o1 with
        | normal => exact ihB _ _ _ hh hc.2
        | _ => exact h1
    · intro h i b o w hh hb ho
      unfold Py.whileLoop
      rcases w.ask i with ⟨_ | c, w0⟩
      · exact ihB _ _ _ hh ho
      · exact iter_inv _ _ _ nbout_normal (fun _ => ihW _ _ _ _ _ hh hb ho) fun _ _ _ => ihB h b w0 hh hb
    · intro h k b o w hh hb ho
      cases k with
      | zero => exact ihB _ _ _ hh ho
      | succ k => exact iter_inv _ _ _ nbout_normal (fun _ => ihF _ _ _ _ _ hh hb ho) fun _ _ _ => ihB h b w hh hb

/-! ### the simulation: markers (pyscript) vs outcomes (reference), lock-step on fuel -/

theorem finish_agree (r2 : Res) (r3 : Res × World) :
    lift (PS.finish r2 r3) = Py.finish r2.toOut (lift r3) := by
  rcases r3 with ⟨(_ | m) | e, w3⟩
  · rfl
  · cases m <;> rfl
  · rfl

theorem handlingIn_agree (r : Res) (h : Option Exc) : PS.handlingIn r h = Py.handlingIn r.toOut h := by
  rcases r with (_ | m) | e
  · rfl
  · cases m <;> rfl
  · rfl

theorem skipsHandlers_of_nb (cfg : Cfg) (e : Exc) (h : cfg.catchesBase = false → baseOnly e.cls = false) :
    skipsHandlers cfg e = false := by
  unfold skipsHandlers
  cases hcb : cfg.catchesBase with
  | true => rfl
  | false => exact h hcb

theorem exitAll_single (m : WItem) (e : Option Nat) (w : World) :
    PS.exitAll [m] e w = (m.suppress, w.emit (.exit m.id e), m.exitRaises) := by
  rcases m with ⟨_, _, _, _, _ | _⟩ <;> rfl

/-- leaving one manager: `r` is what the guarded region did, `o` what it did in the reference semantics -/
theorem withFinish_single (cfg : Cfg) (m : WItem) (r : Res × World) (o : Out × World) (hr : lift r = o)
    (hnb : cfg.catchesBase = false → NBOut o.1) : lift (PS.withFinish cfg [m] r) = Py.exit1 m o := by
  subst hr
  rcases r with ⟨(_ | mk) | e, w⟩
  · rcases m with ⟨_, _, _, _, _ | _⟩ <;> rfl
  · rcases m with ⟨_, _, _, _, _ | _⟩ <;> cases mk <;> rfl
  · simp only [PS.withFinish, skipsHandlers_of_nb cfg e fun hcb => hnb hcb e rfl, exitAll_single, Py.exit1, lift, Res.toOut,
      Bool.false_eq_true, if_false]
    cases m.exitRaises <;> cases m.suppress <;> rfl

/-- the exception being handled is one that `except Exception` can have caught -/
def HOk (cfg : Cfg) (h : Option Exc) : Prop := cfg.catchesBase = true ∨ HNB h

theorem hok_none (cfg : Cfg) : HOk cfg none := Or.inr nofun

theorem HOk.hnb {cfg : Cfg} {h : Option Exc} (hok : HOk cfg h) (hcb : cfg.catchesBase = false) : HNB h :=
  hok.resolve_left (by simp [hcb])

theorem hok_of {cfg : Cfg} {h : Option Exc} (hh : cfg.catchesBase = false → HNB h) : HOk cfg h := by
  cases hcb : cfg.catchesBase with
  | true => exact Or.inl hcb
  | false => exact Or.inr (hh hcb)

theorem nbout_block (cfg : Cfg) (sub : Nat → Nat → Bool) (n : Nat) (h : Option Exc) (ss : List Stmt) (w : World)
    (hok : HOk cfg h) (hc : confL cfg ss = true) (hcb : cfg.catchesBase = false) : NBOut (Py.block sub n h ss w).1 :=
  (nb_all cfg hcb sub n).2.1 h ss w (hok.hnb hcb) hc

def Agree (cfg : Cfg) (sub : Nat → Nat → Bool) (n : Nat) : Prop :=
  (∀ h s w, HOk cfg h → confS cfg s = true → lift (PS.exec cfg sub n h s w) = Py.exec sub n h s w) ∧
  (∀ h ss w, HOk cfg h → confL cfg ss = true → lift (PS.stmts cfg sub n h ss w) = Py.block sub n h ss w) ∧
  (∀ h ss w, HOk cfg h → confL cfg ss = true → freeJumpL ss = false →
      lift (PS.elseStmts cfg sub n h ss w) = Py.block sub n h ss w) ∧
  (∀ h i b o w, HOk cfg h → confL cfg b = true → confL cfg o = true → (cfg.loopElsePropagates || !freeJumpL o) = true →
      lift (PS.whileLoop cfg sub n h i b o w) = Py.whileLoop sub n h i b o w) ∧
  (∀ h k b o w, HOk cfg h → confL cfg b = true → confL cfg o = true → (cfg.loopElsePropagates || !freeJumpL o) = true →
      lift (PS.forLoop cfg sub n h k b o w) = Py.forLoop sub n h k b o w)

section step
variable (cfg : Cfg) (sub : Nat → Nat → Bool) (n : Nat) (ih : Agree cfg sub n)
include ih

theorem else_agree (h : Option Exc) (o : List Stmt) (w : World) (hok : HOk cfg h) (ho : confL cfg o = true)
    (hf : (cfg.loopElsePropagates || !freeJumpL o) = true) :
    lift (if cfg.loopElsePropagates then PS.stmts cfg sub n h o w else PS.elseStmts cfg sub n h o w)
      = Py.block sub n h o w := by
  cases hp : cfg.loopElsePropagates with
  | true => exact ih.2.1 h o w hok ho
  | false =>
    simp only [hp, Bool.false_or, Bool.not_eq_true'] at hf
    exact ih.2.2.1 h o w hok ho hf

/-- on the fragment the body's exception is never one that `except Exception` lets pass (`skipsHandlers` is false) -/
theorem tryPart_agree (h : Option Exc) (b : List Stmt) (hs : List Handler) (o : List Stmt) (w : World) (hok : HOk cfg h)
    (hb : confL cfg b = true) (hh : confH cfg hs = true) (ho : confL cfg o = true) :
    lift (PS.tryPart cfg sub n h b hs o w) = Py.tryPart sub n h b hs o w := by
  have h1 := ih.2.1 h b w hok hb
  have hnb1 := nbout_block cfg sub n h b w hok hb
  simp only [PS.tryPart, Py.tryPart]
  rcases hr1 : PS.stmts cfg sub n h b w with ⟨r1, w1⟩
  rw [hr1] at h1
  rw [← h1] at hnb1 ⊢
  rcases r1 with (_ | m) | e
  · exact ih.2.1 h o w1 hok ho
  · cases m <;> rfl
  · have hsk := skipsHandlers_of_nb cfg e fun hcb => hnb1 hcb e rfl
    simp only [lift, Res.toOut, hsk, Bool.false_eq_true, if_false]
    rcases hsel : selectHandler sub e hs w1 with ⟨sel, w2⟩
    cases sel with
    | notFound => rfl
    | raised e2 => rfl
    | found hbod =>
      exact ih.2.1 (some e) hbod w2 (hok_of fun hcb => hnb_some (hnb1 hcb e rfl))
        (selectHandler_confL cfg sub e hs w1 hbod w2 hh hsel)

theorem try_agree (h : Option Exc) (b : List Stmt) (hs : List Handler) (o f : List Stmt) (w : World) (hok : HOk cfg h)
    (hc : confS cfg (.try_ b hs o f) = true) :
    lift (PS.exec cfg sub (n + 1) h (.try_ b hs o f) w) = Py.exec sub (n + 1) h (.try_ b hs o f) w := by
  simp only [confS, Bool.and_eq_true] at hc
  obtain ⟨⟨⟨hb, hh⟩, ho⟩, hfin⟩ := hc
  -- the `finally` part, for any agreeing result of the try/except/else part
  have tail : ∀ (r : Res × World) (o : Out × World), lift r = o → (cfg.catchesBase = false → NBOut o.1) →
      lift (PS.finish r.1 (PS.stmts cfg sub n (PS.handlingIn r.1 h) f r.2)) =
        Py.finish o.1 (Py.block sub n (Py.handlingIn o.1 h) f o.2) := fun r o hr hnb => by
    subst hr
    rw [finish_agree, handlingIn_agree, ih.2.1 _ f _ (hok_of fun hcb => handlingIn_nb r.1.toOut _ (hnb hcb) (hok.hnb hcb)) hfin]
    rfl
  -- both sides of the goal unfold to this shape, with the two `tryPart`s for `r` and `o`
  exact tail _ _ (tryPart_agree cfg sub n ih h b hs o w hok hb hh ho)
    fun hcb => tryPart_nb cfg hcb sub n (nb_all cfg hcb sub n) h b hs o w (hok.hnb hcb) hb hh ho

theorem with_agree (h : Option Exc) (items : List WItem) (b : List Stmt) (w : World) (hok : HOk cfg h)
    (hc : confS cfg (.with_ items b) = true) :
    lift (PS.exec cfg sub (n + 1) h (.with_ items b) w) = Py.exec sub (n + 1) h (.with_ items b) w := by
  have hc' := hc
  simp only [confS, Bool.and_eq_true] at hc'
  obtain ⟨⟨hb, hw⟩, hq⟩ := hc'
  have bind : ∀ m c, m ∈ items → m.bindRaises = some c → cfg.catchesBase = false → NBOut (.raise { cls := c }) :=
    fun m c hm hmb hcb => by
      simp only [hcb, Bool.false_or, List.all_eq_true, WItem.quiet, Bool.and_eq_true] at hq
      exact nbout_opt (hq m hm).1.2 hmb
  have body : ∀ m w1, lift (PS.withFinish cfg [m] (PS.stmts cfg sub n h b w1)) = Py.exit1 m (Py.block sub n h b w1) :=
    fun m w1 => withFinish_single cfg m _ _ (ih.2.1 h b w1 hok hb) (nbout_block cfg sub n h b w1 hok hb)
  unfold PS.exec Py.exec
  cases hn : cfg.withNested with
  | true =>
    simp only [if_true]
    cases items with
    | nil => exact ih.2.1 h b w hok hb
    | cons m ms =>
      simp only
      cases m.enterRaises with
      | some c => rfl
      | none =>
        simp only
        cases hmb : m.bindRaises with
        | some c => exact withFinish_single cfg m _ _ rfl (bind m c List.mem_cons_self hmb)
        | none =>
          cases ms with
          | nil => exact body m _
          | cons m2 ms2 =>
            have hc2 := confS_with_tail cfg m m2 ms2 b hc
            exact withFinish_single cfg m _ _ (ih.1 h _ _ hok hc2) fun hcb => (nb_all cfg hcb sub n).1 h _ _ (hok.hnb hcb) hc2
  | false =>
    obtain ⟨m, rfl, hme⟩ := withOk_phases cfg items hn hw
    simp only [Bool.false_eq_true, if_false, PS.initAll, List.foldl_cons, List.foldl_nil, PS.enterAll, hme]
    cases hmb : m.bindRaises with
    | some c => exact withFinish_single cfg m _ _ rfl (bind m c List.mem_cons_self hmb)
    | none => exact body m _

end step

theorem agree_all (cfg : Cfg) (sub : Nat → Nat → Bool) : ∀ n, Agree cfg sub n := by
  intro n
  induction n with
  | zero => refine ⟨?_, ?_, ?_, ?_, ?_⟩ <;> intros <;> rfl
  | succ n ih =>
    have ihO := ih.2.2.1
    have ihW := ih.2.2.2.1
    have ihF := ih.2.2.2.2
    refine ⟨?_, ?_, ?_, ?_, ?_⟩
    · intro h s w hok hc
      cases s with
      | tick i | brk | cont | ret v | raise c cause => rfl
      | reraise => cases h <;> rfl
      | assert_ i =>
        unfold PS.exec Py.exec
        rcases w.ask i with ⟨_ | c, w1⟩ <;> rfl
      | suspend i =>
        unfold PS.exec Py.exec
        rcases w.suspend i with ⟨_ | e, w1⟩ <;> rfl
      | ite i b o =>
        simp only [confS, Bool.and_eq_true] at hc
        unfold PS.exec Py.exec
        rcases w.ask i with ⟨_ | c, w1⟩
        · exact ih.2.1 _ _ _ hok hc.2
        · exact ih.2.1 _ _ _ hok hc.1
      | while_ i b o =>
        simp only [confS, Bool.and_eq_true] at hc
        exact ihW _ _ _ _ _ hok hc.1.1 hc.1.2 hc.2
      | for_ i b o =>
        simp only [confS, Bool.and_eq_true] at hc
        exact ihF _ _ _ _ _ hok hc.1.1 hc.1.2 hc.2
      | try_ b hs o f => exact try_agree cfg sub n ih h b hs o f w hok hc
      | with_ items b => exact with_agree cfg sub n ih h items b w hok hc
    · intro h ss w hok hc
      cases ss with
      | nil => rfl
      | cons s ss =>
        simp only [confL, Bool.and_eq_true] at hc
        simp only [PS.stmts, Py.block]
        rw [← ih.1 h s w hok hc.1]
        rcases PS.exec cfg sub n h s w with ⟨(_ | m) | e, w'⟩
        · exact ih.2.1 h ss w' hok hc.2
        · cases m <;> rfl
        · rfl
    · -- the else clause as coded before the fix drops break/continue markers: none arises from a clause without free jumps
      intro h ss w hok hc hf
      cases ss with
      | nil => rfl
      | cons s ss =>
        simp only [confL, Bool.and_eq_true] at hc
        simp only [freeJumpL, Bool.or_eq_false_iff] at hf
        simp only [PS.elseStmts, Py.block]
        have hnj := (nj_all sub n).1 h s w hf.1
        rw [← ih.1 h s w hok hc.1] at hnj ⊢
        generalize PS.exec cfg sub n h s w = r at hnj ⊢
        rcases r with ⟨(_ | m) | e, w'⟩
        · exact ihO h ss w' hok hc.2 hf.2
        · cases m with
          | brk => exact absurd rfl hnj.1
          | cont => exact absurd rfl hnj.2
          | ret v => rfl
        · rfl
    · intro h i b o w hok hb ho hf
      unfold PS.whileLoop Py.whileLoop
      rcases w.ask i with ⟨_ | c, w0⟩
      · exact else_agree cfg sub n ih h o _ hok ho hf
      · dsimp only
        rw [← ih.2.1 h b w0 hok hb]
        rcases PS.stmts cfg sub n h b w0 with ⟨(_ | m) | e, w'⟩
        · exact ihW h i b o w' hok hb ho hf
        · cases m with
          | brk => rfl
          | cont => exact ihW h i b o w' hok hb ho hf
          | ret v => rfl
        · rfl
    · intro h k b o w hok hb ho hf
      cases k with
      | zero => exact else_agree cfg sub n ih h o _ hok ho hf
      | succ k =>
        simp only [PS.forLoop, Py.forLoop]
        rw [← ih.2.1 h b w hok hb]
        rcases PS.stmts cfg sub n h b w with ⟨(_ | m) | e, w'⟩
        · exact ihF h k b o w' hok hb ho hf
        · cases m with
          | brk => rfl
          | cont => exact ihF h k b o w' hok hb ho hf
          | ret v => rfl
        · rfl

/-! ### return markers: fresh allocation keeps pending values per activation -/

namespace MStore

def valOf (s : MStore) (a : Nat) : Option Nat :=
  match s.pending.lookup a with
  | none => none
  | some i => (s.cells[i]?).getD none

theorem step_take (s : MStore) (a : Nat) :
    s.step .fresh (.take a) = { s with out := s.out ++ [(a, s.valOf a)] } := by
  simp only [MStore.step, MStore.valOf]
  cases s.pending.lookup a <;> rfl

theorem valOf_alloc (s : MStore) (hb : ∀ a i, s.pending.lookup a = some i → i < s.cells.length) (a v a' : Nat) :
    (s.alloc a v).valOf a' = if a' == a then some v else s.valOf a' := by
  simp only [MStore.alloc, MStore.valOf, List.lookup_cons]
  cases a' == a with
  | true => simp
  | false =>
    cases hl : s.pending.lookup a' with
    | none => rfl
    | some i => simp [List.getElem?_append_left (hb a' i hl)]

end MStore

def MInv (s : MStore) (t : RetSpec) : Prop :=
  s.out = t.out ∧ (∀ a i, s.pending.lookup a = some i → i < s.cells.length) ∧ (∀ a, s.valOf a = t.last.lookup a)

theorem minv_step (s : MStore) (t : RetSpec) (ev : MEv) (h : MInv s t) :
    MInv (s.step .fresh ev) (t.step ev) := by
  obtain ⟨ho, hb, hv⟩ := h
  cases ev with
  | ret a node v =>
    refine ⟨ho, fun a' i hl => ?_, fun a' => ?_⟩
    · simp only [MStore.step, MStore.alloc, List.lookup_cons, List.length_append, List.length_cons, List.length_nil] at hl ⊢
      split at hl
      · cases hl; exact Nat.lt_succ_self _
      · exact Nat.lt_succ_of_lt (hb a' i hl)
    · exact (MStore.valOf_alloc s hb a v a').trans (by simp only [hv a', RetSpec.step, List.lookup_cons]; cases a' == a <;> rfl)
  | take a =>
    rw [MStore.step_take]
    rw [hv a]
    exact ⟨congrArg (· ++ _) ho, hb, hv⟩

theorem minv_run (evs : List MEv) : ∀ (s : MStore) (t : RetSpec), MInv s t →
    MInv (evs.foldl (MStore.step .fresh) s) (evs.foldl RetSpec.step t) := by
  induction evs with
  | nil => intro s t h; exact h
  | cons ev evs ih => intro s t h; exact ih _ _ (minv_step s t ev h)

end PsModel.C02
