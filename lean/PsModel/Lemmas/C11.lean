import PsModel.Model.C11
import PsModel.Spec.C11
/-!
# C11 lemmas – the pointer-switching evaluator on its own

`Stable`: what a relation between the state before and after must satisfy to hold of every execution; its two
instances give the singleton theorems (`stable_keeps`) and the restore theorems (`stable_rel`).  The simulation by the
lexical reference is in `C11Sim`, the frame property, an instance of it, in `C11Frame`; only `callFn_cases` already
speaks of both evaluators, because every induction over either of them starts from it.
-/
namespace PsModel.C11

theorem lookup_mem {α β} [BEq α] [LawfulBEq α] {l : List (α × β)} {k : α} {v : β} (h : l.lookup k = some v) :
    (k, v) ∈ l := by
  obtain ⟨l₁, l₂, rfl, _⟩ := List.lookup_eq_some_iff.mp h
  exact List.mem_append_right _ List.mem_cons_self

/-! ## programs that never execute `set_global_ctx` (syntactically) -/

mutual
def noSetS : Stmt → Bool
  | .setctx _ => false
  | .try_ b h => noSetB b && noSetB h
  | _ => true
def noSetB : List Stmt → Bool
  | [] => true
  | s :: r => noSetS s && noSetB r
end

structure World.NoSet (W : World) : Prop where
  funcs : ∀ fd ∈ W.funcs, noSetB fd.body = true
  files : ∀ pb ∈ W.files, noSetB pb.2 = true

/-- what `abs` needs in order to commute with reads and writes (`abs_*` in `C11Sim`); the restore theorems need the whole
shape of the pointers, `WF` below, which implies it (`WF.coh`) -/
def Coh (p : Ptrs) : Prop := p.gst = p.gctx ∧ ∀ c, p.sym = .glob c → c = p.gst

def kindEq : Scope → Scope → Prop
  | .glob a, .glob b => a = b
  | .loc _, .loc _ => True
  | _, _ => False

/-- same pointers; a local table may have new contents -/
structure Same (p q : Ptrs) : Prop where
  gst : q.gst = p.gst
  gctx : q.gctx = p.gctx
  stack : q.stack = p.stack
  cur : q.cur = p.cur
  kind : kindEq p.sym q.sym

def isLoc : Scope → Prop
  | .loc _ => True
  | .glob _ => False

/-- shape of the pointers of an evaluator: module level (`sym_table` is the global table, empty stack) or inside
calls (the stack's bottom entry is the global table, `sym_table` is a local table) -/
def WF (p : Ptrs) : Prop :=
  p.gst = p.gctx ∧ ((p.stack = [] ∧ p.sym = .glob p.gst) ∨ (∃ r, p.stack = .glob p.gst :: r ∧ isLoc p.sym))

theorem isLoc_iff {s : Scope} : isLoc s ↔ ∃ t, s = .loc t := by cases s <;> simp [isLoc]

theorem kindEq_glob_right {s : Scope} {a : Nat} : kindEq s (.glob a) → s = .glob a := by
  cases s with
  | glob b => exact congrArg Scope.glob
  | loc t => exact False.elim

theorem kindEq_glob_left {s : Scope} {a : Nat} : kindEq (.glob a) s → s = .glob a := by
  cases s with
  | glob b => exact fun h => congrArg Scope.glob h.symm
  | loc t => exact False.elim

theorem kindEq_loc {s s' : Scope} (h : kindEq s s') (hl : isLoc s) : isLoc s' := by
  cases s with
  | glob a => exact hl.elim
  | loc t =>
    cases s' with
    | glob b => exact h
    | loc t' => trivial

theorem kindEq_refl (s : Scope) : kindEq s s := by cases s <;> simp [kindEq]

theorem kindEq_trans {a b c : Scope} (h1 : kindEq a b) (h2 : kindEq b c) : kindEq a c := by
  cases a <;> cases b <;> cases c <;> simp_all [kindEq]

namespace Same

theorem refl (p : Ptrs) : Same p p := ⟨rfl, rfl, rfl, rfl, kindEq_refl _⟩

theorem trans {p q r : Ptrs} (h1 : Same p q) (h2 : Same q r) : Same p r :=
  ⟨h2.gst.trans h1.gst, h2.gctx.trans h1.gctx, h2.stack.trans h1.stack, h2.cur.trans h1.cur,
   kindEq_trans h1.kind h2.kind⟩

end Same

theorem Coh.of_same {p q : Ptrs} (hc : Coh p) (hs : Same p q) : Coh q := by
  refine ⟨by rw [hs.gst, hs.gctx]; exact hc.1, fun c hq => ?_⟩
  rw [hs.gst]
  exact hc.2 c (kindEq_glob_right (hq ▸ hs.kind))

theorem WF.of_same {p q : Ptrs} (h : WF p) (hs : Same p q) : WF q := by
  refine ⟨by rw [hs.gst, hs.gctx]; exact h.1, ?_⟩
  rcases h.2 with ⟨h1, h2⟩ | ⟨r, h1, h2⟩
  · exact .inl ⟨hs.stack.trans h1, by rw [hs.gst]; exact kindEq_glob_left (h2 ▸ hs.kind)⟩
  · exact .inr ⟨r, by rw [hs.stack, hs.gst]; exact h1, kindEq_loc hs.kind h2⟩

theorem wf_fresh (c : Nat) : WF (fresh c) := ⟨rfl, Or.inl ⟨rfl, rfl⟩⟩

theorem WF.coh {p : Ptrs} (h : WF p) : Coh p := by
  refine ⟨h.1, ?_⟩
  intro c hc
  rcases h.2 with ⟨_, hs⟩ | ⟨r, _, hl⟩
  · rw [hs] at hc; injection hc with hc; exact hc.symm
  · rw [hc] at hl; cases hl

theorem coh_fresh (c : Nat) : Coh (fresh c) := (wf_fresh c).coh

theorem envOf_same_of_kind {p q : Ptrs} (hs : Same p q) : (envOf q).g = (envOf p).g ∧ (envOf q).gnames = (envOf p).gnames :=
  ⟨hs.gst, hs.cur⟩

theorem coh_enterCall {p : Ptrs} (hc : Coh p) (c : Nat) (l : Table) (gl : List String) : Coh (enterCall p c l gl) := by
  unfold enterCall
  split
  · exact ⟨rfl, by intro a h; cases h⟩
  · exact ⟨hc.1, by intro a h; cases h⟩

theorem wf_enterCall {p : Ptrs} (h : WF p) (c : Nat) (l : Table) (gl : List String) : WF (enterCall p c l gl) := by
  unfold enterCall
  split
  · exact ⟨rfl, Or.inr ⟨[], rfl, trivial⟩⟩
  · refine ⟨h.1, Or.inr ?_⟩
    rcases h.2 with ⟨h1, h2⟩ | ⟨r, h1, _⟩
    · exact ⟨[], by simp [h1, h2], trivial⟩
    · exact ⟨r ++ [p.sym], by simp [h1], trivial⟩

theorem envOf_enterCall {p : Ptrs} (hc : Coh p) (c : Nat) (l : Table) (gl : List String) :
    envOf (enterCall p c l gl) = { g := c, locals := some l, gnames := some gl } := by
  unfold enterCall envOf
  split
  · rfl
  · rename_i h
    have : p.gctx = c := by simpa using h
    simp [← this, hc.1]

/-- **the `finally` block undoes the entry**, for any body that leaves the pointers as it found them -/
theorem leaveCall_enterCall {p q : Ptrs} (c : Nat) (l : Table) (gl : List String)
    (hs : Same (enterCall p c l gl) q) : leaveCall p c q = p := by
  unfold leaveCall
  unfold enterCall at hs
  split
  · rfl
  · rename_i h
    rw [if_neg h] at hs
    have hst : q.stack = p.stack ++ [p.sym] := hs.stack
    rw [hst]
    simp only [List.getLast?_append, List.getLast?_singleton, Option.some_or, List.dropLast_concat]
    have h1 := hs.gst
    have h2 := hs.gctx
    simp only at h1 h2
    cases p
    simp_all

/-- what the binding primitives (`assignVar`, `writeSym`, `setKey`, the import folds) do to a state: symbol tables get
new contents, nothing else in the heap changes, the pointers stay (a local table may have new contents) -/
structure Quiet (a b : St) : Prop where
  ctxs : b.h.ctxs = a.h.ctxs
  reg : b.h.reg = a.h.reg
  loads : b.h.loads = a.h.loads
  nset : b.h.nset = a.h.nset
  same : Same a.p b.p

namespace Quiet

theorem refl (a : St) : Quiet a a := ⟨rfl, rfl, rfl, rfl, Same.refl _⟩

theorem trans {a b c : St} (h1 : Quiet a b) (h2 : Quiet b c) : Quiet a c :=
  ⟨h2.ctxs.trans h1.ctxs, h2.reg.trans h1.reg, h2.loads.trans h1.loads, h2.nset.trans h1.nset, h1.same.trans h2.same⟩

theorem ofBind {a : St} {p : St × Option Exc} (h : Quiet a p.1) :
    Quiet a (match (generalizing := false) p with
             | (st', none) => (⟨st', .norm⟩ : Res)
             | (st', some e) => ⟨st', .exc e⟩).st := by
  obtain ⟨st', o⟩ := p
  cases o with
  | none => exact h
  | some e => exact h

end Quiet

theorem quiet_setKey (st : St) (c : Nat) (x : String) (v : Val) : Quiet st { st with h := st.h.setKey c x v } :=
  ⟨rfl, rfl, rfl, rfl, Same.refl _⟩

theorem quiet_writeSym (st : St) (x : String) (v : Val) : Quiet st (writeSym st x v) := by
  unfold writeSym
  cases hs : st.p.sym with
  | loc t => exact ⟨rfl, rfl, rfl, rfl, rfl, rfl, rfl, rfl, by rw [hs]; trivial⟩
  | glob c => exact quiet_setKey st c x v

theorem quiet_assignVar (st : St) (x : String) (v : Val) : Quiet st (assignVar st x v) := by
  unfold assignVar
  split
  · exact quiet_setKey st _ x v
  · exact quiet_writeSym st x v

theorem quiet_bindFrom (c : Nat) (names : List (String × Option String)) :
    ∀ st : St, Quiet st (bindFrom st c names).1 := by
  induction names with
  | nil => exact Quiet.refl
  | cons na r ih =>
    intro st
    obtain ⟨nm, asn⟩ := na
    simp only [bindFrom]
    cases tget (st.h.tab c) nm with
    | none => exact Quiet.refl _
    | some v => exact (quiet_writeSym st _ v).trans (ih _)

theorem quiet_bindStar (t : Table) : ∀ st : St, Quiet st (bindStar st t) := by
  induction t with
  | nil => exact Quiet.refl
  | cons kv r ih =>
    intro st
    simp only [bindStar]
    split
    · exact (quiet_writeSym st _ _).trans (ih _)
    · exact ih _

theorem quiet_bindStarC (cfg : Cfg) (c : Nat) (st : St) : Quiet st (bindStarC cfg st c).1 := by
  simp only [bindStarC]
  cases starNames cfg (st.h.tab c) with
  | some l => exact quiet_bindFrom c _ st
  | none => exact quiet_bindStar _ st

/-- What a relation `R` between the state before and after (with `P` what is known of the state before) must satisfy
to hold of every execution: it is a preorder along which `P` is kept, holds of the binding primitives and of
`set_global_ctx`, and crosses the three places where the evaluator runs a body on other pointers
(`EvalFunc.call`, a spawned evaluator, `load_file`). -/
structure Stable (W : World) (P : St → Prop) (R : St → St → Prop) : Prop where
  refl : ∀ {a}, P a → R a a
  trans : ∀ {a b c}, P a → R a b → R b c → R a c
  keep : ∀ {a b}, P a → R a b → P b
  quiet : ∀ {a b}, P a → Quiet a b → R a b
  setctx : ∀ {a} (c : Nat), P a → R a ⟨{ a.h with nset := a.h.nset + 1 }, setGlobalCtx a.p c⟩
  call : ∀ {a} (c : Nat) (l : Table) (gl : List String), P a →
    P { a with p := enterCall a.p c l gl } ∧
    ∀ b, R { a with p := enterCall a.p c l gl } b → R a { b with p := leaveCall a.p c b.p }
  spawn : ∀ {a} (c : Nat), P a → P { a with p := fresh c } ∧ ∀ b, R { a with p := fresh c } b → R a { b with p := a.p }
  load : ∀ {a} {m : Name} {lvl : Nat} {cd : Cand} {body : Block}, P a →
    importLookup W a.h a.p.gctx m lvl = .load cd body →
    P ⟨loadBegin a.h cd, fresh a.h.ctxs.length⟩ ∧
    ∀ b, R ⟨loadBegin a.h cd, fresh a.h.ctxs.length⟩ b →
      R a ⟨loadAbort b.h, a.p⟩ ∧ R a ⟨loadCommit b.h cd a.h.ctxs.length, a.p⟩

/-- `EvalFunc.call` either fails before touching anything or runs the body – in the model between `enterCall` and
`leaveCall`, in the reference under the function's own environment; which of the two depends on neither state -/
theorem callFn_cases (W : World) (n : Nat) (fv : Val) (vs : List Val) :
    (∃ e, (∀ st, callFn W n st fv vs = ⟨st, .error e⟩) ∧ ∀ s, Py.callFn W n s fv vs = ⟨s, .error e⟩) ∨
    ∃ m c fid fd l, n = m + 1 ∧ fv = .fn c fid ∧ W.funcs[fid]? = some fd ∧ bindArgs fd.params vs = some l ∧
      (∀ st, callFn W n st fv vs =
        ⟨{ (execBlock W m { st with p := enterCall st.p c l fd.globals } fd.body).st with
            p := leaveCall st.p c (execBlock W m { st with p := enterCall st.p c l fd.globals } fd.body).st.p },
         outOfBody (execBlock W m { st with p := enterCall st.p c l fd.globals } fd.body).out⟩) ∧
      ∀ s, Py.callFn W n s fv vs =
        ⟨⟨(Py.execBlock W m ⟨s.h, { g := c, locals := some l, gnames := some fd.globals }⟩ fd.body).s.h, s.env⟩,
         outOfBody (Py.execBlock W m ⟨s.h, { g := c, locals := some l, gnames := some fd.globals }⟩ fd.body).out⟩ := by
  cases n with
  | zero => exact .inl ⟨_, fun _ => rfl, fun _ => rfl⟩
  | succ m =>
    cases fv with
    | fn c fid =>
      cases hf : W.funcs[fid]? with
      | none => exact .inl ⟨.type, fun _ => by simp only [callFn, hf], fun _ => by simp only [Py.callFn, hf]⟩
      | some fd =>
        cases hl : bindArgs fd.params vs with
        | none => exact .inl ⟨.type, fun _ => by simp only [callFn, hf, hl], fun _ => by simp only [Py.callFn, hf, hl]⟩
        | some l =>
          exact .inr ⟨m, c, fid, fd, l, rfl, rfl, hf, hl, fun _ => by simp only [callFn, hf, hl],
            fun _ => by simp only [Py.callFn, hf, hl]⟩
    | _ => exact .inl ⟨_, fun _ => rfl, fun _ => rfl⟩

namespace Stable

theorem run {W : World} {P : St → Prop} {R : St → St → Prop} (hR : Stable W P R) : ∀ n,
    (∀ st s, P st → R st (execStmt W n st s).st) ∧
    (∀ st b, P st → R st (execBlock W n st b).st) ∧
    (∀ st fv vs, P st → R st (callFn W n st fv vs).st) ∧
    (∀ st m lvl, P st → R st (importMod W n st m lvl).st) := by
  intro n
  induction n with
  | zero =>
    exact ⟨fun _ _ h => hR.refl h, fun _ _ h => hR.refl h, fun _ _ _ h => hR.refl h, fun _ _ _ h => hR.refl h⟩
  | succ n ih =>
    obtain ⟨ihS, ihB, ihC, ihM⟩ := ih
    refine ⟨?_, ?_, ?_, ?_⟩
    · intro st s hP
      have asg : ∀ x v, R st (assignVar st x v) := fun x v => hR.quiet hP (quiet_assignVar st x v)
      -- the four import forms: `module_import`, then on success a binding primitive
      have imp : ∀ m lvl (k : Nat → Res), (∀ c, Quiet (importMod W n st m lvl).st (k c).st) →
          R st (match (importMod W n st m lvl).val with
                | .error e => (⟨(importMod W n st m lvl).st, .exc e⟩ : Res)
                | .ok none => ⟨(importMod W n st m lvl).st, .exc .notFound⟩
                | .ok (some c) => k c).st := by
        intro m lvl k hk
        have h1 := ihM st m lvl hP
        cases (importMod W n st m lvl).val with
        | error e => exact h1
        | ok o =>
          cases o with
          | none => exact h1
          | some c => exact hR.trans hP h1 (hR.quiet (hR.keep hP h1) (hk c))
      cases s with
      | assign x a =>
        simp only [execStmt]
        cases evalAtom st a with
        | error e => exact hR.refl hP
        | ok v => exact asg x v
      | add x a b =>
        simp only [execStmt]
        cases evalAtom st a with
        | error e => exact hR.refl hP
        | ok va =>
          simp only
          cases evalAtom st b with
          | error e => exact hR.refl hP
          | ok vb =>
            simp only
            cases addVals va vb with
            | error e => exact hR.refl hP
            | ok v => exact asg x v
      | setattr m a v =>
        simp only [execStmt]
        cases evalAtom st v with
        | error e => exact hR.refl hP
        | ok w =>
          simp only
          cases lookupVar st m with
          | error e => exact hR.refl hP
          | ok mv =>
            cases mv with
            | mod c => exact hR.quiet hP (quiet_setKey st c a w)
            | _ => exact hR.refl hP
      | call x f args =>
        simp only [execStmt]
        cases evalAtom st f with
        | error e => exact hR.refl hP
        | ok fv =>
          simp only
          cases evalAtoms st args with
          | error e => exact hR.refl hP
          | ok vs =>
            simp only
            have h1 := ihC st fv vs hP
            cases (callFn W n st fv vs).val with
            | error e => exact h1
            | ok v => exact hR.trans hP h1 (hR.quiet (hR.keep hP h1) (quiet_assignVar _ x v))
      | spawn own f args =>
        simp only [execStmt]
        cases evalAtom st f with
        | error e => exact hR.refl hP
        | ok fv =>
          simp only
          cases evalAtoms st args with
          | error e => exact hR.refl hP
          | ok vs => exact (hR.spawn _ hP).2 _ (ihC _ fv vs (hR.spawn _ hP).1)
      | defn x fid => exact asg x _
      | setAll l => exact asg _ _
      | ret a =>
        simp only [execStmt]
        cases evalAtom st a with
        | _ => exact hR.refl hP
      | raise j => exact hR.refl hP
      | try_ body handler =>
        simp only [execStmt]
        have h1 := ihB st body hP
        cases (execBlock W n st body).out with
        | exc e =>
          simp only
          split
          · exact h1
          · exact hR.trans hP h1 (ihB _ handler (hR.keep hP h1))
        | _ => exact h1
      | import_ m asn =>
        simp only [execStmt]
        refine imp m 0 _ fun c => ?_
        exact quiet_writeSym _ _ _
      | fromDot lvl nm asn =>
        simp only [execStmt]
        refine imp [nm] lvl _ fun c => ?_
        exact quiet_writeSym _ _ _
      | from_ m lvl names =>
        simp only [execStmt]
        refine imp m lvl _ fun c => ?_
        exact .ofBind (quiet_bindFrom c names _)
      | fromStar m lvl =>
        simp only [execStmt]
        refine imp m lvl _ fun c => ?_
        exact .ofBind (quiet_bindStarC W.cfg c _)
      | setctx nm =>
        simp only [execStmt]
        cases regGet st.h.reg nm with
        | none => exact hR.refl hP
        | some c => exact hR.setctx c hP
    · intro st b hP
      cases b with
      | nil => exact hR.refl hP
      | cons s rest =>
        simp only [execBlock]
        have h1 := ihS st s hP
        cases (execStmt W n st s).out with
        | norm => exact hR.trans hP h1 (ihB _ rest (hR.keep hP h1))
        | _ => exact h1
    · intro st fv vs hP
      rcases callFn_cases W (n+1) fv vs with ⟨e, h, _⟩ | ⟨m, c, fid, fd, l, hn, _, _, _, h, _⟩
      · rw [h]; exact hR.refl hP
      · cases hn
        rw [h]
        exact (hR.call c l fd.globals hP).2 _ (ihB _ fd.body (hR.call c l fd.globals hP).1)
    · intro st m lvl hP
      simp only [importMod]
      cases hl : importLookup W st.h st.p.gctx m lvl with
      | err e => exact hR.refl hP
      | found c => exact hR.refl hP
      | missing => exact hR.refl hP
      | load cd body =>
        obtain ⟨hP1, hb⟩ := hR.load hP hl
        obtain ⟨ha, hc⟩ := hb _ (ihB _ body hP1)
        simp only
        cases (execBlock W n { h := loadBegin st.h cd, p := fresh st.h.ctxs.length } body).out with
        | exc e => exact ha
        | _ => exact hc

end Stable

theorem hasModuleAt_loadBegin (h : Heap) (cd : Cand) (i : Nat) : hasModuleAt (loadBegin h cd) i = hasModuleAt h i := by
  unfold hasModuleAt loadBegin
  simp only
  rcases Nat.lt_trichotomy i h.ctxs.length with hlt | rfl | hgt
  · rw [List.getElem?_append_left hlt]
  · rw [List.getElem?_append_right (Nat.le_refl _), Nat.sub_self, List.getElem?_eq_none (Nat.le_refl _)]
    rfl
  · rw [List.getElem?_eq_none (Nat.le_of_lt hgt), List.getElem?_eq_none]
    rw [List.length_append]
    exact hgt

theorem getElem?_setHasModule (l : List Ctx) (c i : Nat) :
    (setHasModule l c)[i]? = if i = c then l[i]?.map (fun x => { x with hasModule := true }) else l[i]? := by
  induction l generalizing c i with
  | nil => show ([] : List Ctx)[i]? = _; split <;> rfl
  | cons x r ih =>
    cases c with
    | zero => cases i <;> rfl
    | succ c =>
      cases i with
      | zero => rfl
      | succ i => simp only [setHasModule, List.getElem?_cons_succ, ih, Nat.add_right_cancel_iff]

theorem hasModuleAt_loadCommit_ne (h : Heap) (cd : Cand) {c i : Nat} (hi : i ≠ c) :
    hasModuleAt (loadCommit h cd c) i = hasModuleAt h i := by
  unfold hasModuleAt loadCommit
  simp only [getElem?_setHasModule, if_neg hi]

theorem hasModuleAt_loadCommit_of (h : Heap) (cd : Cand) (c : Nat) {i : Nat} (hi : hasModuleAt h i = true) :
    hasModuleAt (loadCommit h cd c) i = true := by
  by_cases e : i = c
  · unfold hasModuleAt at hi ⊢
    simp only [loadCommit, getElem?_setHasModule, if_pos e]
    cases hx : h.ctxs[i]? with
    | none => rw [hx] at hi; cases hi
    | some x => rfl
  · rw [hasModuleAt_loadCommit_ne h cd e]; exact hi

/-! ## singleton – a registered module object is never replaced and never loaded again -/

/-- `k` is registered and its context carries a module object (`mod_ctx and mod_ctx.module`) -/
def Reg (k : Name) (i : Nat) (h : Heap) : Prop := regGet h.reg k = some i ∧ hasModuleAt h i = true

structure Keeps (k : Name) (i : Nat) (h h' : Heap) : Prop where
  reg : Reg k i h'
  loads : ∃ extra, h'.loads = h.loads ++ extra ∧ k ∉ extra

namespace Keeps

theorem trans {k : Name} {i : Nat} {a b c : Heap} (h1 : Keeps k i a b) (h2 : Keeps k i b c) : Keeps k i a c := by
  obtain ⟨e1, l1, n1⟩ := h1.loads
  obtain ⟨e2, l2, n2⟩ := h2.loads
  refine ⟨h2.reg, e1 ++ e2, by rw [l2, l1, List.append_assoc], ?_⟩
  simp only [List.mem_append, not_or]
  exact ⟨n1, n2⟩

theorem of_eq {k : Name} {i : Nat} {h h' : Heap} (hr : Reg k i h) (hc : h'.ctxs = h.ctxs) (hg : h'.reg = h.reg)
    (hl : h'.loads = h.loads) : Keeps k i h h' := by
  refine ⟨⟨by rw [hg]; exact hr.1, ?_⟩, [], by rw [hl, List.append_nil], List.not_mem_nil⟩
  have := hr.2
  unfold hasModuleAt at this ⊢
  rw [hc]
  exact this

end Keeps

theorem regGet_regDel_ne (r : List (Name × Nat)) {k n : Name} (h : k ≠ n) : regGet (regDel r n) k = regGet r k := by
  induction r with
  | nil => rfl
  | cons e rest ih =>
    unfold regDel regGet at ih ⊢
    rw [List.filter_cons, List.lookup_cons]
    split
    · rw [List.lookup_cons, ih]
    · rename_i hn
      have he : e.1 = n := by simpa using hn
      have : (k == e.1) = false := by rw [he]; exact beq_false_of_ne h
      rw [this]; exact ih

theorem regGet_regSet_self (r : List (Name × Nat)) (n : Name) (c : Nat) : regGet (regSet r n c) n = some c :=
  List.lookup_cons_self

theorem regGet_regSet_ne (r : List (Name × Nat)) {k n : Name} (c : Nat) (h : k ≠ n) : regGet (regSet r n c) k = regGet r k := by
  unfold regSet
  have : (k == n) = false := by simpa using h
  show List.lookup k ((n, c) :: regDel r n) = _
  simp only [List.lookup_cons, this]
  exact regGet_regDel_ne r h

theorem findLoaded_eq_none {h : Heap} {cds : List Cand} :
    findLoaded h cds = none ↔ ∀ cd ∈ cds, ∀ c, regGet h.reg cd.ctxName = some c → hasModuleAt h c = false := by
  induction cds with
  | nil => exact ⟨fun _ _ hc => (nomatch hc), fun _ => rfl⟩
  | cons x r ih =>
    simp only [findLoaded, List.forall_mem_cons, ← ih]
    cases regGet h.reg x.ctxName with
    | none => simp
    | some c => by_cases hm : hasModuleAt h c = true <;> simp [hm]

theorem findFile_some {W : World} {cds : List Cand} {cd : Cand} {b : Block} (h : findFile W cds = some (cd, b)) :
    cd ∈ cds ∧ fileOf W cd.file = some b := by
  induction cds with
  | nil => simp [findFile] at h
  | cons x r ih =>
    simp only [findFile] at h
    cases hf : fileOf W x.file with
    | none => rw [hf] at h; exact ⟨List.mem_cons_of_mem _ (ih h).1, (ih h).2⟩
    | some b' =>
      rw [hf] at h
      simp only [Option.some.injEq, Prod.mk.injEq] at h
      obtain ⟨rfl, rfl⟩ := h
      exact ⟨List.mem_cons_self, hf⟩

theorem importLookup_load {W : World} {h : Heap} {g : Nat} {m : Name} {lvl : Nat} {cd : Cand} {b : Block}
    (hl : importLookup W h g m lvl = .load cd b) :
    ∃ cds, candidates W.cfg (selfCtx h g) m lvl = .ok cds ∧ findLoaded h cds = none ∧ findFile W cds = some (cd, b) := by
  unfold importLookup at hl
  split at hl
  · cases hl
  · rename_i cds hc
    split at hl
    · cases hl
    · rename_i hnone
      split at hl
      · cases hl
      · rename_i hf
        injection hl with h1 h2
        subst h1 h2
        exact ⟨cds, hc, hnone, hf⟩

theorem importLookup_load_name {W : World} {h : Heap} {g : Nat} {m : Name} {lvl : Nat} {cd : Cand} {b : Block}
    (hl : importLookup W h g m lvl = .load cd b) {k : Name} {i : Nat} (hr : Reg k i h) : k ≠ cd.ctxName := by
  obtain ⟨cds, _, hnone, hf⟩ := importLookup_load hl
  intro hk
  have := findLoaded_eq_none.mp hnone _ (findFile_some hf).1 i (by rw [← hk]; exact hr.1)
  rw [hr.2] at this
  cases this

theorem keeps_loadBegin {k : Name} {i : Nat} {h : Heap} (hr : Reg k i h) {cd : Cand} (hk : k ≠ cd.ctxName) :
    Keeps k i h (loadBegin h cd) := by
  refine ⟨⟨?_, by rw [hasModuleAt_loadBegin]; exact hr.2⟩, [cd.ctxName], rfl, by simpa using hk⟩
  simp only [loadBegin]; rw [regGet_regDel_ne _ hk]; exact hr.1

theorem keeps_loadCommit {k : Name} {i : Nat} {h : Heap} (hr : Reg k i h) {cd : Cand} (hk : k ≠ cd.ctxName) (c : Nat) :
    Keeps k i h (loadCommit h cd c) := by
  refine ⟨⟨?_, hasModuleAt_loadCommit_of h cd c hr.2⟩, [], by simp [loadCommit], by simp⟩
  simp only [loadCommit]; rw [regGet_regSet_ne _ c hk]; exact hr.1

/-- the pointers play no part; the one step that touches the registry, a load, is of another name -/
theorem stable_keeps (W : World) (k : Name) (i : Nat) :
    Stable W (fun a => Reg k i a.h) (fun a b => Keeps k i a.h b.h) where
  refl hr := .of_eq hr rfl rfl rfl
  trans _ := Keeps.trans
  keep _ h := h.reg
  quiet hr q := .of_eq hr q.ctxs q.reg q.loads
  setctx _ hr := .of_eq hr rfl rfl rfl
  call _ _ _ hr := ⟨hr, fun _ h => h⟩
  spawn _ hr := ⟨hr, fun _ h => h⟩
  load hr hl :=
    have hk := importLookup_load_name hl hr
    have h1 := keeps_loadBegin hr hk
    ⟨h1.reg, fun _ h2 => ⟨h1.trans h2, (h1.trans h2).trans (keeps_loadCommit h2.reg hk _)⟩⟩

/-! ## restore, for ALL programs – including those that execute `set_global_ctx` -/

theorem wf_setGlobalCtx {p : Ptrs} (h : WF p) (c : Nat) : WF (setGlobalCtx p c) := by
  unfold setGlobalCtx
  refine ⟨rfl, ?_⟩
  rcases h.2 with ⟨h1, h2⟩ | ⟨r, h1, h2⟩
  · left; simp [h1, h2]
  · obtain ⟨t, hp⟩ := isLoc_iff.mp h2
    right
    exact ⟨r, by simp [h1], by rw [hp]; trivial⟩

theorem same_setGlobalCtx {p q : Ptrs} (hs : Same p q) (c : Nat) : Same (setGlobalCtx p c) (setGlobalCtx q c) := by
  unfold setGlobalCtx
  refine ⟨rfl, rfl, by simp only [hs.stack], hs.cur, ?_⟩
  cases hp : p.sym with
  | glob a =>
    have hq : q.sym = .glob a := kindEq_glob_left (hp ▸ hs.kind)
    rw [hq, hs.gst]
    exact kindEq_refl _
  | loc t =>
    obtain ⟨t2, hq⟩ := isLoc_iff.mp (kindEq_loc hs.kind (hp ▸ trivial))
    rw [hq]
    trivial

theorem setGlobalCtx_twice {p : Ptrs} (h : WF p) (a b : Nat) : setGlobalCtx (setGlobalCtx p a) b = setGlobalCtx p b := by
  unfold setGlobalCtx
  rcases h.2 with ⟨h1, h2⟩ | ⟨r, h1, h2⟩
  · simp [h1, h2]
  · obtain ⟨t, hp⟩ := isLoc_iff.mp h2
    simp [h1, hp]

/-- `set_global_ctx` executed inside a same-context call redirects what the caller's pointers are restored from:
it commutes with the entry -/
theorem setGlobalCtx_enterCall {p : Ptrs} (h : WF p) (c c' : Nat) (l : Table) (gl : List String) (hc : p.gctx = c) :
    setGlobalCtx (enterCall p c l gl) c' = enterCall (setGlobalCtx p c') c' l gl := by
  unfold enterCall
  rw [if_neg (fun hne => hne hc), if_neg (fun hne => hne rfl)]
  unfold setGlobalCtx
  rcases h.2 with ⟨h1, h2⟩ | ⟨r, h1, h2⟩
  · simp [h1, h2]
  · obtain ⟨t, hp⟩ := isLoc_iff.mp h2
    simp [h1, hp]

/-- the `finally` block after a body that (last) executed `set_global_ctx(c')` at this depth -/
theorem leaveCall_setctx {p q : Ptrs} (h : WF p) (c c' : Nat) (l : Table) (gl : List String) (hc : p.gctx = c)
    (hs : Same (setGlobalCtx (enterCall p c l gl) c') q) : leaveCall p c q = setGlobalCtx p c' := by
  -- in the same-context branch `leaveCall` reads only `curr_func` of the entry pointers
  have e : leaveCall p c q = leaveCall (setGlobalCtx p c') c' q := by
    unfold leaveCall
    rw [if_neg (fun hne => hne hc), if_neg (fun hne => hne rfl)]
    rfl
  rw [e]
  exact leaveCall_enterCall c' l gl (setGlobalCtx_enterCall h c c' l gl hc ▸ hs)

/-- the pointers `q` after running from `p`, compared by `S`: as they were, or as redirected by the last
`set_global_ctx`; the ghost counter `nset` tells the two apart -/
def RelBy (S : Ptrs → Ptrs → Prop) (h : Heap) (p : Ptrs) (h' : Heap) (q : Ptrs) : Prop :=
  (h.nset ≤ h'.nset ∧ S p q) ∨ (h.nset < h'.nset ∧ ∃ c, S (setGlobalCtx p c) q)

/-- a local table may have new contents -/
abbrev Rel := RelBy Same

abbrev RelX := RelBy fun p q => q = p

namespace RelBy

theorem le {S : Ptrs → Ptrs → Prop} {h h' : Heap} {p q : Ptrs} (r : RelBy S h p h' q) : h.nset ≤ h'.nset :=
  r.elim (·.1) fun a => Nat.le_of_lt a.1

theorem mono {S S' : Ptrs → Ptrs → Prop} {h h' : Heap} {p q : Ptrs} (r : RelBy S h p h' q)
    (hS : ∀ {p q}, S p q → S' p q) : RelBy S' h p h' q :=
  r.imp (fun a => ⟨a.1, hS a.2⟩) fun a => ⟨a.1, a.2.imp fun _ => hS⟩

theorem unchanged {S : Ptrs → Ptrs → Prop} {h h' : Heap} {p q : Ptrs} (r : RelBy S h p h' q)
    (e : h'.nset = h.nset) : S p q :=
  r.elim (·.2) fun a => absurd (e ▸ a.1) (Nat.lt_irrefl _)

end RelBy

namespace Rel

theorem refl (h : Heap) (p : Ptrs) : Rel h p h p := Or.inl ⟨Nat.le_refl _, Same.refl _⟩

/-- what is left of `Rel` when the pointers are put back afterwards (a spawned evaluator, `load_file`) -/
theorem back {h h' h'' : Heap} {p p' q : Ptrs} (r : Rel h p' h' q) (e : h''.nset = h'.nset) : Rel h p h'' p :=
  Or.inl ⟨e ▸ r.le, Same.refl _⟩

theorem wf {h h' : Heap} {p q : Ptrs} (hw : WF p) (r : Rel h p h' q) : WF q := by
  rcases r with ⟨_, b⟩ | ⟨_, c, b⟩
  · exact hw.of_same b
  · exact (wf_setGlobalCtx hw c).of_same b

theorem trans {h0 h1 h2 : Heap} {p q r : Ptrs} (hw : WF p) (a : Rel h0 p h1 q) (b : Rel h1 q h2 r) :
    Rel h0 p h2 r := by
  rcases a with ⟨a1, a2⟩ | ⟨a1, c, a2⟩
  · rcases b with ⟨b1, b2⟩ | ⟨b1, d, b2⟩
    · exact Or.inl ⟨Nat.le_trans a1 b1, a2.trans b2⟩
    · exact Or.inr ⟨Nat.lt_of_le_of_lt a1 b1, d, (same_setGlobalCtx a2 d).trans b2⟩
  · rcases b with ⟨b1, b2⟩ | ⟨b1, d, b2⟩
    · exact Or.inr ⟨Nat.lt_of_lt_of_le a1 b1, c, a2.trans b2⟩
    · refine Or.inr ⟨Nat.lt_trans a1 b1, d, ?_⟩
      have := same_setGlobalCtx a2 d
      rw [setGlobalCtx_twice hw] at this
      exact this.trans b2

/-- **the `finally` block**: whatever the body did to the pointers it was started on, `leaveCall` hands back the
caller's, redirected if the body executed `set_global_ctx` in the caller's own context; a call into another context
restores exactly -/
theorem leave {h h' : Heap} {p q : Ptrs} (hw : WF p) (c : Nat) (l : Table) (gl : List String)
    (r : Rel h (enterCall p c l gl) h' q) :
    RelX h p h' (leaveCall p c q) ∧ (p.gctx ≠ c → leaveCall p c q = p) := by
  have hcross : p.gctx ≠ c → leaveCall p c q = p := fun hne => by unfold leaveCall; rw [if_pos hne]
  refine ⟨?_, hcross⟩
  by_cases hne : p.gctx = c
  · rcases r with ⟨b1, b2⟩ | ⟨b1, c', b2⟩
    · exact Or.inl ⟨b1, leaveCall_enterCall c l gl b2⟩
    · exact Or.inr ⟨b1, c', leaveCall_setctx hw c c' l gl hne b2⟩
  · exact Or.inl ⟨r.le, hcross hne⟩

end Rel

theorem stable_rel (W : World) : Stable W (fun a => WF a.p) (fun a b => Rel a.h a.p b.h b.p) where
  refl _ := Rel.refl _ _
  trans := Rel.trans
  keep hw r := r.wf hw
  quiet _ q := Or.inl ⟨Nat.le_of_eq q.nset.symm, q.same⟩
  setctx c _ := Or.inr ⟨Nat.lt_succ_self _, c, Same.refl _⟩
  call c l gl hw := ⟨wf_enterCall hw c l gl, fun _ r => (r.leave hw c l gl).1.mono fun e => e ▸ Same.refl _⟩
  spawn c _ := ⟨wf_fresh c, fun _ r => r.back rfl⟩
  load _ _ := ⟨wf_fresh _, fun _ r => ⟨r.back rfl, r.back rfl⟩⟩

theorem callFn_restore (W : World) (n : Nat) (st : St) (fv : Val) (vs : List Val) (hw : WF st.p) :
    RelX st.h st.p (callFn W n st fv vs).st.h (callFn W n st fv vs).st.p ∧
    (st.p.gctx ≠ fnCtx fv st.p.gctx → (callFn W n st fv vs).st.p = st.p) := by
  rcases callFn_cases W n fv vs with ⟨e, h, _⟩ | ⟨m, c, fid, fd, l, _, rfl, _, _, h, _⟩
  · rw [h]; exact ⟨Or.inl ⟨Nat.le_refl _, rfl⟩, fun _ => rfl⟩
  · rw [h]
    exact Rel.leave hw c l fd.globals (((stable_rel W).run m).2.1 { st with p := enterCall st.p c l fd.globals } fd.body
      (wf_enterCall hw c l fd.globals))

/-! ## the concrete worlds of the witnesses (findings F2, F3) -/

def raceW : World := { funcs := [], files := [(["modules", "m1"], [.assign "cnt" (.lit 0)])] }

def raceH : Heap :=
  { ctxs := [{ name := ["file", "a"], rel := none, hasModule := false }], tabs := fun _ => [], reg := [(["file", "a"], 0)] }

def raceCd : Cand := ⟨["modules", "m1"], ["modules", "m1"], none⟩

def cycW : World :=
  { funcs := [], files := [(["modules", "m1"], [.import_ ["m2"] none]), (["modules", "m2"], [.import_ ["m1"] none])] }

def NoMod (h : Heap) : Prop := (∀ c, hasModuleAt h c = false) ∧ (∀ c, isAppsRel (selfCtx h c).rel = false)

theorem noMod_loadBegin {h : Heap} (hn : NoMod h) (cd : Cand) (hr : isAppsRel cd.rel = false) : NoMod (loadBegin h cd) := by
  refine ⟨fun c => by rw [hasModuleAt_loadBegin]; exact hn.1 c, fun c => ?_⟩
  unfold selfCtx loadBegin
  simp only
  rcases Nat.lt_trichotomy c h.ctxs.length with hlt | rfl | hgt
  · rw [List.getElem?_append_left hlt]; exact hn.2 c
  · rw [List.getElem?_append_right (Nat.le_refl _), Nat.sub_self]; exact hr
  · rw [List.getElem?_eq_none]
    · rfl
    · rw [List.length_append]; exact hgt

end PsModel.C11
