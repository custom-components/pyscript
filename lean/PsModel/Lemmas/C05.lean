import PsModel.Model.C05
import PsModel.Spec.C05
/-!
# C05 helper lemmas – simulation of the hold machines by the documented timeline

An evaluation passes the `state_hold_false` block (`gate`), then the `state_hold` block; a `*_gate` equation reduces
each step function to its `state_hold_false`-free form, for which the facts about a step are proved.  `abs` / `nabs`
map the machines' variables to the timeline state; `sim_drive` is the induction along a no-ties history.
-/
namespace PsModel.C05
open Spec

theorem head_append_some {α} {l : List α} {r : α} (h : l.head? = some r) (m : List α) : (l ++ m).head? = some r := by
  rw [List.head?_append, h]; rfl

/-- the machines fire a hold strictly after its deadline, the timeline at it: the same off the deadline -/
theorem ite_lt_le {α} {d t : Nat} (h : t ≠ d) (x y : α) : (if d < t then x else y) = if d ≤ t then x else y := by
  by_cases h1 : d < t
  · rw [if_pos h1, if_pos (Nat.le_of_lt h1)]
  · rw [if_neg h1, if_neg (by omega)]

theorem wake_lt {wt : Bool} {d t T : Nat} (hto : ¬ (decide (T < t) && !(wt && decide (d < T))) = true) (hne : t ≠ T) :
    (if (wt && decide (d < t)) = true then d else t) < T := by
  cases wt
  · simp at hto ⊢; omega
  · simp at hto ⊢; split <;> omega

/-- `state_hold_false = hf`, expression last seen false since `fs`, evaluation to `b` at `t`: the new start of the false
period, and whether the evaluation goes on to the `state_hold` block (a true one only after `hf` of false) -/
def gate (hf fs : Option Nat) (t : Nat) (b : Bool) : Option Nat × Bool :=
  match hf with
  | none => (fs, true)
  | some h =>
    if b then (none, match fs with | some f => decide (h ≤ t - f) | none => false)
    else (match fs with | some f => some f | none => some t, true)

def Cfg.noHF (cfg : Cfg) : Cfg := { cfg with holdFalse := none }

theorem onEval_gate (cfg : Cfg) (st : SState) (t : Nat) (b : Bool) (a : Nat) :
    onEval cfg st t b a =
      match gate cfg.holdFalse st.falseSince t b with
      | (fs, true) => onEval cfg.noHF { st with falseSince := fs } t b a
      | (fs, false) => { st with falseSince := fs } := by
  obtain ⟨p, fs, rs⟩ := st
  unfold onEval gate Cfg.noHF
  cases cfg.holdFalse with
  | none => rfl
  | some h =>
    cases b with
    | false => rfl
    | true =>
      cases fs with
      | none => rfl
      | some f => by_cases hc : h ≤ t - f <;> simp [hc, candidate]

namespace Legacy

theorem holdFalseStep_gate (cfg : Cfg) (t : Nat) (st : LState) (b : Bool) :
    Legacy.holdFalseStep cfg t st false b =
      match gate cfg.holdFalse st.falseTime t b with
      | (ft, true) => .fall { st with falseTime := ft } b
      | (ft, false) => .cont { st with falseTime := ft } := by
  obtain ⟨w, tt, inf, ft, rs⟩ := st
  unfold Legacy.holdFalseStep gate
  cases cfg.holdFalse with
  | none => rfl
  | some h =>
    cases b with
    | false => cases ft <;> rfl
    | true =>
      cases ft with
      | none => rfl
      | some f => by_cases hc : h ≤ t - f <;> simp [hc]

theorem onMsg_gate (cfg : Cfg) (st : LState) (t : Nat) (b : Bool) (a : Nat) :
    Legacy.onMsg cfg st t false (.eval b) a =
      match gate cfg.holdFalse st.falseTime t b with
      | (ft, true) => Legacy.onMsg cfg.noHF { st with falseTime := ft } t false (.eval b) a
      | (ft, false) => { st with falseTime := ft } := by
  simp only [Legacy.onMsg, Legacy.holdFalseStep_gate]
  rcases gate cfg.holdFalse st.falseTime t b with ⟨ft, _ | _⟩ <;> rfl

end Legacy

namespace WaitUntil

theorem holdFalseStep_eq (cfg : Cfg) (t : Nat) (st : LState) (b : Bool) :
    WaitUntil.holdFalseStep cfg t st b = Legacy.holdFalseStep cfg t st false b := by
  obtain ⟨w, tt, inf, ft, rs⟩ := st
  unfold WaitUntil.holdFalseStep Legacy.holdFalseStep
  cases cfg.holdFalse with
  | none => rfl
  | some h => cases ft <;> cases b <;> rfl

theorem onMsg_gate (cfg : Cfg) (st : LState) (t : Nat) (b : Bool) (a : Nat) :
    WaitUntil.onMsg cfg ⟨st, none⟩ t (.eval b) a =
      match gate cfg.holdFalse st.falseTime t b with
      | (ft, true) => WaitUntil.onMsg cfg.noHF ⟨{ st with falseTime := ft }, none⟩ t (.eval b) a
      | (ft, false) => ⟨{ st with falseTime := ft }, none⟩ := by
  simp only [WaitUntil.onMsg, WaitUntil.holdFalseStep_eq, Legacy.holdFalseStep_gate]
  rcases gate cfg.holdFalse st.falseTime t b with ⟨ft, _ | _⟩ <;> rfl

end WaitUntil

namespace New

theorem checkNewState_false (initial : Bool) (hold : Option Nat) (t : Nat) (st : NState) :
    New.checkNewState initial hold t st false = { st with te := none, fe := (gate st.hf st.fe t false).1 } := by
  obtain ⟨te, fe, la, hf, rs⟩ := st
  unfold New.checkNewState gate
  cases hf <;> cases fe <;> rfl

/-- a true evaluation that gets through is handled like the initial check, which `state_hold_false` does not apply to -/
theorem checkNewState_gate (hold : Option Nat) (t : Nat) (st : NState) :
    New.checkNewState false hold t st true =
      match gate st.hf st.fe t true with
      | (fe, true) => New.checkNewState true hold t { st with fe := fe } true
      | (fe, false) => { st with fe := fe } := by
  obtain ⟨te, fe, la, hf, rs⟩ := st
  unfold New.checkNewState gate
  cases hf with
  | none => rfl
  | some h =>
    cases fe with
    | none => rfl
    | some f => by_cases hc : h ≤ t - f <;> simp [hc]

end New

/-! ## the timeline: expiry steps, and where a pending delay comes from -/

def OnGrid (cfg : Cfg) (st : SState) (hist : List Evt) : Prop :=
  ∀ p, st.pending = some p → gridFrom cfg p.1 hist = true

def Fresh (cfg : Cfg) (st : SState) (t : Nat) : Prop :=
  ∀ p, st.pending = some p → p.1 < t ∧ t < p.1 + cfg.hold.getD 0

theorem fresh_hold {cfg : Cfg} {st : SState} {t : Nat} {p : Nat × Nat} (h : Fresh cfg st t)
    (hp : st.pending = some p) : cfg.hold.isSome = true := by
  have := h p hp
  cases hS : cfg.hold with
  | some _ => rfl
  | none => rw [hS] at this; exact absurd this.2 (Nat.lt_asymm this.1)

theorem expire_expire (cfg : Cfg) (st : SState) {t₁ t₂ : Nat} (h : t₁ ≤ t₂) :
    expire cfg (expire cfg st t₁) t₂ = expire cfg st t₂ := by
  unfold expire
  cases hp : st.pending with
  | none => simp [hp]
  | some p =>
    obtain ⟨s, a⟩ := p
    by_cases h1 : s + cfg.hold.getD 0 ≤ t₁
    · have h2 : s + cfg.hold.getD 0 ≤ t₂ := by omega
      simp [h1, h2]
    · simp [h1, hp]

theorem flush_expire (cfg : Cfg) (st : SState) (t : Nat) : flush cfg (expire cfg st t) = flush cfg st := by
  unfold flush expire
  cases hp : st.pending with
  | none => simp [hp]
  | some p =>
    obtain ⟨s, a⟩ := p
    by_cases h1 : s + cfg.hold.getD 0 ≤ t <;> simp [h1, hp]

theorem onEvt_expire (cfg : Cfg) (st : SState) (e : Evt) {t : Nat} (h : t ≤ e.t) :
    onEvt cfg (expire cfg st t) e = onEvt cfg st e := by
  unfold onEvt
  cases e.k <;> simp [expire_expire cfg st h]

theorem drive_expire (cfg : Cfg) (hist : List Evt) (st : SState) (t : Nat) (h : ∀ e ∈ hist, t ≤ e.t) :
    Spec.drive cfg (expire cfg st t) hist = Spec.drive cfg st hist := by
  cases hist with
  | nil => simp [Spec.drive, flush_expire]
  | cons e es => simp only [Spec.drive]; rw [onEvt_expire cfg st e (h e (by simp))]

theorem expire_fresh {cfg : Cfg} {st : SState} {t : Nat} (h : Fresh cfg st t) : expire cfg st t = st := by
  unfold expire
  split
  · next s a hp => rw [if_neg (by have := (h _ hp).2; omega)]
  · rfl

theorem expire_pending {cfg : Cfg} {st : SState} {t : Nat} {p : Nat × Nat} (h : (expire cfg st t).pending = some p) :
    st.pending = some p ∧ t < p.1 + cfg.hold.getD 0 := by
  unfold expire at h
  split at h
  · next s a hp =>
    split at h
    · cases h
    · rw [hp] at h; cases h; exact ⟨hp, by omega⟩
  · next hp => rw [hp] at h; cases h

theorem onEval_pending {cfg : Cfg} {st : SState} {t : Nat} {b : Bool} {a : Nat} {p : Nat × Nat}
    (h : (onEval cfg st t b a).pending = some p) : p.1 = t ∨ st.pending = some p := by
  obtain ⟨pd, fs, rs⟩ := st
  rw [onEval_gate] at h
  split at h
  · revert h
    unfold onEval candidate Cfg.noHF
    cases b with
    | false => simp
    | true =>
      cases cfg.hold with
      | none => exact Or.inr
      | some S =>
        cases pd with
        | none => intro h; exact Or.inl (Option.some.inj h ▸ rfl)
        | some q => exact Or.inr
  · exact Or.inr h

theorem onEvt_pending {cfg : Cfg} {st : SState} {e : Evt} {p : Nat × Nat} (h : (onEvt cfg st e).pending = some p) :
    p.1 = e.t ∨ st.pending = some p := by
  unfold onEvt at h
  split at h
  · exact (onEval_pending h).imp_right (fun h => (expire_pending h).1)
  · exact Or.inr (expire_pending h).1
  · exact Or.inr (expire_pending h).1

theorem start_onGrid {cfg : Cfg} {b0 : Bool} {hist : List Evt} (hg : gridFrom cfg 0 hist = true) :
    OnGrid cfg (Spec.start cfg b0) hist := by
  intro p h
  revert h
  unfold Spec.start candidate
  cases (cfg.checkNow && b0) <;> cases cfg.hold <;> simp
  intro h; exact h ▸ hg

theorem gridFrom_tail {cfg : Cfg} {s : Nat} {e : Evt} {es : List Evt} (h : gridFrom cfg s (e :: es) = true) :
    (s < e.t ∧ e.t ≠ s + cfg.hold.getD 0) ∧ gridFrom cfg s es = true := by
  simpa only [gridFrom, List.all_cons, Bool.and_eq_true, decide_eq_true_eq] using h

theorem grid_iff (cfg : Cfg) (hist : List Evt) :
    grid cfg hist = true ↔ hist.Pairwise (fun a b => a.t < b.t ∧ b.t ≠ a.t + cfg.hold.getD 0) := by
  induction hist with
  | nil => simp [grid]
  | cons e es ih => simp [grid, gridFrom, ih]

theorem noTies_filter {cfg : Cfg} {hist : List Evt} (p : Evt → Bool) (h : NoTies cfg hist) :
    NoTies cfg (hist.filter p) := by
  refine ⟨?_, (grid_iff _ _).mpr (((grid_iff _ _).mp h.2).filter p)⟩
  have := h.1
  simp only [gridFrom, List.all_eq_true] at this ⊢
  exact fun e he => this e (List.mem_filter.mp he).1

theorem grid_sorted {cfg : Cfg} {hist : List Evt} (h : grid cfg hist = true) :
    hist.Pairwise (fun a b => a.t ≤ b.t) :=
  ((grid_iff _ _).mp h).imp (fun h => Nat.le_of_lt h.1)

/-- **simulation**; that the grid stays clear of later deadlines follows on the timeline (`onEvt_pending`) -/
theorem sim_drive {σ : Type} (cfg : Cfg) (α : σ → SState) (Inv : σ → Prop) (tick : σ → Nat → σ)
    (msg : σ → Evt → σ) (drv : σ → List Evt → σ) (hnil : ∀ s, α (drv s []) = flush cfg (α s))
    (hcons : ∀ s e es, drv s (e :: es) = drv (msg (tick s e.t) e) es)
    (htick : ∀ s t, Inv s → (∀ p, (α s).pending = some p → t ≠ p.1 + cfg.hold.getD 0) →
      α (tick s t) = expire cfg (α s) t ∧ Inv (tick s t))
    (hmsg : ∀ s e, Inv s → Fresh cfg (α s) e.t → α (msg s e) = onEvt cfg (α s) e ∧ Inv (msg s e))
    (hist : List Evt) :
    ∀ s, Inv s → OnGrid cfg (α s) hist → grid cfg hist = true →
      α (drv s hist) = Spec.drive cfg (α s) hist := by
  induction hist with
  | nil => intro s _ _ _; exact hnil s
  | cons e es ih =>
    intro s hi hp hg
    have hg' : gridFrom cfg e.t es = true ∧ grid cfg es = true := by simpa only [grid, Bool.and_eq_true] using hg
    obtain ⟨ht, hi1⟩ := htick s e.t hi (fun p h => (gridFrom_tail (hp p h)).1.2)
    obtain ⟨hα, hi2⟩ := hmsg (tick s e.t) e hi1 (fun p h => by
      obtain ⟨h1, h2⟩ := expire_pending (ht ▸ h)
      exact ⟨(gridFrom_tail (hp p h1)).1.1, h2⟩)
    rw [ht, onEvt_expire cfg _ e (Nat.le_refl _)] at hα
    rw [hcons, Spec.drive, ← hα]
    refine ih _ hi2 (fun p h => ?_) hg'.2
    rcases onEvt_pending (hα ▸ h) with h2 | h1
    · rw [h2]; exact hg'.1
    · exact (gridFrom_tail (hp p h1)).2

/-! ## legacy decorator loop: `state_trig_waiting`/`last_state_trig_time`/`state_trig_notify_info` ↔ `pending`,
`state_false_time` ↔ `falseSince` -/

def abs (st : LState) : SState :=
  ⟨if st.waiting then some (st.trigTime, st.info) else none, st.falseTime, st.runs⟩

namespace Legacy

def tick (cfg : Cfg) (st : LState) (t : Nat) : LState :=
  if Legacy.deadlineBefore cfg st t then Legacy.onTimeout cfg st else st

def init0 (cfg : Cfg) (b0 : Bool) : LState :=
  { Legacy.init with falseTime := if cfg.holdFalse.isSome && !b0 then some 0 else none }

/-- the initial check of `state_check_now` is one more evaluation, outside `state_hold_false` -/
theorem start_eq (cfg : Cfg) (b0 : Bool) :
    Legacy.start cfg b0 =
      if cfg.checkNow then Legacy.onMsg cfg.noHF (Legacy.init0 cfg b0) 0 false (.eval b0) 0 else Legacy.init0 cfg b0 := by
  obtain ⟨cn, S, H⟩ := cfg
  cases cn <;> cases H <;> cases b0 <;> rfl

end Legacy

theorem abs_expire (cfg : Cfg) (st : LState) (t : Nat)
    (hno : ∀ p, (abs st).pending = some p → t ≠ p.1 + cfg.hold.getD 0) :
    abs (Legacy.tick cfg st t) = expire cfg (abs st) t := by
  obtain ⟨w, tt, inf, ft, rs⟩ := st
  cases w with
  | false => rfl
  | true =>
    simp only [Legacy.tick, Legacy.deadlineBefore, Bool.true_and, decide_eq_true_eq, apply_ite abs]
    exact ite_lt_le (hno _ rfl) _ _

theorem abs_flush (cfg : Cfg) (st : LState) :
    abs (if st.waiting then Legacy.onTimeout cfg st else st) = flush cfg (abs st) := by
  obtain ⟨w, tt, inf, ft, rs⟩ := st
  cases w <;> rfl

theorem abs_onEval_noHF (cfg : Cfg) (st : LState) (t : Nat) (b : Bool) (a : Nat)
    (h : ∀ p, (abs st).pending = some p → cfg.hold.isSome = true) :
    abs (Legacy.onMsg cfg.noHF st t false (.eval b) a) = onEval cfg.noHF (abs st) t b a := by
  obtain ⟨w, tt, inf, ft, rs⟩ := st
  obtain ⟨cn, S, H⟩ := cfg
  cases S <;> cases b <;> cases w <;> first | rfl | exact absurd (h _ rfl) (by simp)

theorem abs_onEval (cfg : Cfg) (st : LState) (t : Nat) (b : Bool) (a : Nat)
    (h : ∀ p, (abs st).pending = some p → cfg.hold.isSome = true) :
    abs (Legacy.onMsg cfg st t false (.eval b) a) = onEval cfg (abs st) t b a := by
  rw [Legacy.onMsg_gate, onEval_gate, show (abs st).falseSince = st.falseTime from rfl]
  rcases gate cfg.holdFalse st.falseTime t b with ⟨ft, _ | _⟩
  · rfl
  · exact abs_onEval_noHF cfg _ t b a h

theorem abs_msg (cfg : Cfg) (st : LState) (e : Evt) (h : Fresh cfg (abs st) e.t) :
    abs (Legacy.onMsg cfg st e.t false e.k e.a) = onEvt cfg (abs st) e := by
  unfold onEvt
  rw [expire_fresh h]
  cases e.k with
  | eval b => exact abs_onEval cfg st e.t b e.a (fun _ => fresh_hold h)
  | skip => rfl
  | unrelated => rfl

theorem abs_start (cfg : Cfg) (b0 : Bool) : abs (Legacy.start cfg b0) = Spec.start cfg b0 := by
  rw [Legacy.start_eq]
  obtain ⟨cn, S, H⟩ := cfg
  cases cn with
  | false => cases H <;> cases b0 <;> rfl
  | true =>
    rw [if_pos rfl,
      abs_onEval_noHF ⟨true, S, H⟩ (Legacy.init0 ⟨true, S, H⟩ b0) 0 b0 0 (fun _ h => nomatch h)]
    cases H <;> cases b0 <;> rfl

theorem onTimeout_waiting (cfg : Cfg) (st : LState) : (Legacy.onTimeout cfg st).waiting = false := rfl

theorem legacy_sim (cfg : Cfg) (b0 : Bool) (hist : List Evt) (h : NoTies cfg hist) :
    abs (Legacy.drive cfg (Legacy.start cfg b0) hist) = Spec.drive cfg (Spec.start cfg b0) hist := by
  have := sim_drive cfg abs (fun _ => True) (Legacy.tick cfg) (fun st e => Legacy.onMsg cfg st e.t false e.k e.a)
    (Legacy.drive cfg) (abs_flush cfg) (fun _ _ _ => rfl) (fun st t _ h => ⟨abs_expire cfg st t h, trivial⟩)
    (fun st e _ h => ⟨abs_msg cfg st e h, trivial⟩) hist _ trivial (abs_start cfg b0 ▸ start_onGrid h.1) h.2
  rwa [abs_start] at this

/-! ## new subsystem (`New.current`): `true_entered_at`/`last_func_args` ↔ `pending`, `false_entered_at` ↔ `falseSince` -/

def nabs (st : NState) : SState :=
  ⟨st.te.map (fun s => (s, st.la)), st.fe, st.runs⟩

namespace New

def tick (hold : Option Nat) (st : NState) (t : Nat) : NState :=
  if New.deadlineBefore hold st t then New.onTimeout hold st else st

theorem tick_hf (hold : Option Nat) (st : NState) (t : Nat) :
    (New.tick hold st t).hf = st.hf := by
  unfold New.tick New.onTimeout
  split
  · cases st.te <;> rfl
  · rfl

end New

theorem nabs_expire (cfg : Cfg) (st : NState) (t : Nat)
    (hno : ∀ p, (nabs st).pending = some p → t ≠ p.1 + cfg.hold.getD 0) :
    nabs (New.tick cfg.hold st t) = expire cfg (nabs st) t := by
  obtain ⟨te, fe, la, hf, rs⟩ := st
  cases te with
  | none => rfl
  | some s =>
    simp only [New.tick, New.deadlineBefore, decide_eq_true_eq, apply_ite nabs]
    exact ite_lt_le (hno _ rfl) _ _

theorem nabs_flush (cfg : Cfg) (st : NState) : nabs (New.onTimeout cfg.hold st) = flush cfg (nabs st) := by
  obtain ⟨te, fe, la, hf, rs⟩ := st
  cases te <;> rfl

theorem nabs_candidate (cfg : Cfg) (st : NState) (t a : Nat) (hla : st.te = none → st.la = a)
    (h : Fresh cfg (nabs st) t) :
    nabs (New.checkNewState true cfg.hold t st true) = candidate cfg (nabs st) t a ∧
      (New.checkNewState true cfg.hold t st true).hf = st.hf := by
  obtain ⟨te, fe, la, hf, rs⟩ := st
  unfold New.checkNewState candidate nabs
  cases te with
  | none =>
    obtain rfl : la = a := hla rfl
    cases hf <;> cases cfg.hold <;> exact ⟨rfl, rfl⟩
  | some s =>
    obtain ⟨h1, h2⟩ := h _ rfl
    obtain ⟨hh, hS⟩ := Option.isSome_iff_exists.mp (fresh_hold h rfl)
    rw [hS] at h2 ⊢
    have hlt : ¬ hh ≤ t - s := by simp only [Option.getD_some] at h1 h2; omega
    cases hf <;> simp [hlt]

theorem nabs_checkNewState (cfg : Cfg) (st : NState) (t : Nat) (b : Bool) (a : Nat) (hhf : st.hf = cfg.holdFalse)
    (hla : st.te = none → st.la = a) (h : Fresh cfg (nabs st) t) :
    nabs (New.checkNewState false cfg.hold t st b) = onEval cfg (nabs st) t b a ∧
      (New.checkNewState false cfg.hold t st b).hf = cfg.holdFalse := by
  rw [onEval_gate, ← hhf, show (nabs st).falseSince = st.fe from rfl]
  cases b with
  | false =>
    rw [New.checkNewState_false]
    cases st.hf <;> exact ⟨rfl, rfl⟩
  | true =>
    rw [New.checkNewState_gate]
    rcases gate st.hf st.fe t true with ⟨fs, _ | _⟩
    · exact ⟨rfl, rfl⟩
    · exact nabs_candidate cfg { st with fe := fs } t a hla h

theorem nabs_msg (cfg : Cfg) (st : NState) (e : Evt) (hhf : st.hf = cfg.holdFalse)
    (h : Fresh cfg (nabs st) e.t) :
    nabs (New.onMsgF New.current cfg.hold st e.t e.k e.a) = onEvt cfg (nabs st) e ∧
      (New.onMsgF New.current cfg.hold st e.t e.k e.a).hf = cfg.holdFalse := by
  unfold onEvt
  rw [expire_fresh h]
  cases e.k with
  | eval b =>
    -- `last_func_args` become this message's unless a hold is pending (`New.remember`)
    obtain ⟨te, fe, la, hf, rs⟩ := st
    cases te with
    | none => exact nabs_checkNewState cfg ⟨none, fe, e.a, hf, rs⟩ e.t b e.a hhf (fun _ => rfl) h
    | some s => exact nabs_checkNewState cfg ⟨some s, fe, la, hf, rs⟩ e.t b e.a hhf (fun h => nomatch h) h
  | skip => exact ⟨rfl, hhf⟩
  | unrelated => exact ⟨rfl, hhf⟩

theorem nabs_start (cfg : Cfg) (wu b0 : Bool) :
    nabs (New.start cfg wu b0) = Spec.start cfg b0 ∧ (New.start cfg wu b0).hf = cfg.holdFalse := by
  obtain ⟨cn, S, H⟩ := cfg
  cases cn with
  | false => cases H <;> cases b0 <;> exact ⟨rfl, rfl⟩
  | true =>
    cases b0 with
    | false => cases H <;> exact ⟨rfl, rfl⟩
    | true => cases H <;> cases S <;> exact ⟨rfl, rfl⟩

/-- **simulation, new subsystem (current code)**: along any no-ties history – `skip` messages included – `_cycle`
and the timeline agree on the whole state: runs, times, and the arguments remembered for a pending hold -/
theorem new_sim (cfg : Cfg) (wu b0 : Bool) (hist : List Evt) (h : NoTies cfg hist) :
    nabs (New.driveF New.current cfg.hold (New.startF New.current cfg wu b0) hist) =
      Spec.drive cfg (Spec.start cfg b0) hist := by
  obtain ⟨hs, hi⟩ := nabs_start cfg wu b0
  have := sim_drive cfg nabs (fun st => st.hf = cfg.holdFalse) (New.tick cfg.hold)
    (fun st e => New.onMsgF New.current cfg.hold st e.t e.k e.a) (New.driveF New.current cfg.hold) (nabs_flush cfg)
    (fun _ _ _ => rfl) (fun st t hi h => ⟨nabs_expire cfg st t h, (New.tick_hf cfg.hold st t).trans hi⟩) (nabs_msg cfg)
    hist _ hi (hs ▸ start_onGrid h.1) h.2
  rwa [hs] at this

/-- `wait_until` and the decorator loop move in lock step until the first run -/
def WJ (w : WaitUntil.WState) (l : LState) : Prop :=
  (w.ret = none ∧ w.st = l ∧ l.runs = []) ∨ (∃ r, w.ret = some r ∧ l.runs.head? = some r)

/-- one message, taken by both loops from the same waiting state: either the decorator loop runs the function and
`wait_until` returns that trigger, or both are left in the same state without a run; a hold pending afterwards was
started by this message or was pending before -/
theorem onMsg_both (cfg : Cfg) (st : LState) (t : Nat) (k : Kind) (a : Nat) {l : LState} {w : WaitUntil.WState}
    (hl : Legacy.onMsg cfg st t false k a = l) (hw : WaitUntil.onMsg cfg ⟨st, none⟩ t k a = w) :
    (w.st.waiting = true → w.st.trigTime = t ∨ (st.waiting = true ∧ w.st.trigTime = st.trigTime)) ∧
      ((l.runs = st.runs ++ [(t, a)] ∧ w.ret = some (t, a)) ∨ (w = ⟨l, none⟩ ∧ l.runs = st.runs)) := by
  subst hl hw
  cases k with
  | unrelated => exact ⟨fun h => Or.inr ⟨h, rfl⟩, Or.inr ⟨rfl, rfl⟩⟩
  | skip => exact ⟨fun h => Or.inr ⟨h, rfl⟩, Or.inr ⟨rfl, rfl⟩⟩
  | eval b =>
    rw [WaitUntil.onMsg_gate, Legacy.onMsg_gate]
    rcases gate cfg.holdFalse st.falseTime t b with ⟨ft, _ | _⟩
    · exact ⟨fun h => Or.inr ⟨h, rfl⟩, Or.inr ⟨rfl, rfl⟩⟩
    · obtain ⟨wt, tt, inf, _, rs⟩ := st
      obtain ⟨cn, S, H⟩ := cfg
      cases S <;> cases b <;> cases wt <;>
        exact ⟨fun h => by first | exact Or.inr ⟨h, rfl⟩ | exact Or.inl rfl | exact Bool.noConfusion h,
          by first | exact Or.inr ⟨rfl, rfl⟩ | exact Or.inl ⟨rfl, rfl⟩⟩

theorem wj_msg (cfg : Cfg) {w : WaitUntil.WState} {l : LState} (h : WJ w l) (t : Nat) (k : Kind) (a : Nat) :
    WJ (WaitUntil.onMsg cfg w t k a) (Legacy.onMsg cfg l t false k a) := by
  obtain ⟨_, hb⟩ := onMsg_both cfg l t k a rfl rfl
  rcases h with ⟨h1, h2, h3⟩ | ⟨r, h1, h2⟩
  · obtain ⟨st, ret⟩ := w
    dsimp only at h1 h2
    subst h1 h2
    rcases hb with ⟨hl, hw⟩ | ⟨hw, hl⟩
    · exact Or.inr ⟨_, hw, by rw [hl, h3]; rfl⟩
    · exact Or.inl ⟨by rw [hw], by rw [hw], hl.trans h3⟩
  · refine Or.inr ⟨r, by simp [WaitUntil.onMsg, h1], ?_⟩
    rcases hb with ⟨hl, _⟩ | ⟨_, hl⟩
    · rw [hl]; exact head_append_some h2 _
    · rw [hl]; exact h2

theorem wj_waiting {w : WaitUntil.WState} {l : LState} (h : WJ w l) (hr : w.ret = none) : w.st = l := by
  rcases h with ⟨_, h2, _⟩ | ⟨r, h1, _⟩
  · exact h2
  · rw [hr] at h1; exact absurd h1 (by simp)

theorem wj_expire (cfg : Cfg) {w : WaitUntil.WState} {l : LState} (h : WJ w l) {c c' : Bool}
    (hc : w.ret = none → c = c') :
    WJ (if c then WaitUntil.onTimeout cfg w else w) (if c' then Legacy.onTimeout cfg l else l) := by
  rcases h with ⟨h1, h2, h3⟩ | ⟨r, h1, h2⟩
  · rw [← hc h1]
    split
    · exact Or.inr ⟨(l.trigTime + cfg.hold.getD 0, l.info), by simp [WaitUntil.onTimeout, h1, h2],
        by simp [Legacy.onTimeout, h3]⟩
    · exact Or.inl ⟨h1, h2, h3⟩
  · refine Or.inr ⟨r, ?_, ?_⟩
    · split <;> simp [WaitUntil.onTimeout, h1]
    · split
      · exact head_append_some h2 _
      · exact h2

theorem wj_drive (cfg : Cfg) (hist : List Evt) :
    ∀ (w : WaitUntil.WState) (l : LState), WJ w l → WJ (WaitUntil.drive cfg w hist) (Legacy.drive cfg l hist) := by
  induction hist with
  | nil => intro w l h; exact wj_expire cfg h (fun hr => by rw [wj_waiting h hr])
  | cons e es ih =>
    intro w l h
    exact ih _ _ (wj_msg cfg (wj_expire cfg h (fun hr => by rw [wj_waiting h hr])) e.t e.k e.a)

namespace WaitUntil

theorem start_eq (cfg : Cfg) (b0 : Bool) :
    WaitUntil.start cfg b0 =
      if cfg.checkNow then WaitUntil.onMsg cfg.noHF ⟨Legacy.init0 cfg b0, none⟩ 0 (.eval b0) 0
      else ⟨Legacy.init0 cfg b0, none⟩ := by
  obtain ⟨cn, S, H⟩ := cfg
  cases cn <;> cases H <;> cases b0 <;> cases S <;> rfl

/-- the initial check before fix `07b3e39` differed only for `state_check_now ∧ state_hold_false ∧ initially false` -/
theorem startF_unrecorded (cfg : Cfg) (b0 : Bool)
    (hok : ¬ (cfg.checkNow = true ∧ cfg.holdFalse.isSome = true ∧ b0 = false)) :
    WaitUntil.startF true cfg b0 = WaitUntil.start cfg b0 := by
  obtain ⟨cn, S, H⟩ := cfg
  cases cn <;> cases H <;> cases b0 <;> first | rfl | exact absurd ⟨rfl, rfl, rfl⟩ hok

end WaitUntil

theorem wj_start (cfg : Cfg) (b0 : Bool) : WJ (WaitUntil.start cfg b0) (Legacy.start cfg b0) := by
  rw [WaitUntil.start_eq, Legacy.start_eq]
  split
  · exact wj_msg cfg.noHF (Or.inl ⟨rfl, rfl, rfl⟩) 0 (.eval b0) 0
  · exact Or.inl ⟨rfl, rfl, rfl⟩

def WaitUntil.iter (cfg : Cfg) (w : WaitUntil.WState) (e : Evt) : WaitUntil.WState :=
  WaitUntil.onMsg cfg (if Legacy.deadlineBefore cfg w.st e.t then WaitUntil.onTimeout cfg w else w) e.t e.k e.a

theorem WaitUntil.start_ret {cfg : Cfg} {b0 : Bool} {r : Run} (h : (WaitUntil.start cfg b0).ret = some r) : r.1 = 0 := by
  rw [WaitUntil.start_eq] at h
  split at h
  · obtain ⟨_, hb⟩ := onMsg_both cfg.noHF (Legacy.init0 cfg b0) 0 (.eval b0) 0 rfl rfl
    rcases hb with ⟨_, h1⟩ | ⟨h1, _⟩ <;> rw [h1] at h <;> cases h
    rfl
  · cases h

theorem wu_onMsg_frozen (cfg : Cfg) (w : WaitUntil.WState) (r : Run) (hr : w.ret = some r) (t : Nat) (k : Kind)
    (a : Nat) : WaitUntil.onMsg cfg w t k a = w := by
  simp [WaitUntil.onMsg, hr]

theorem wu_onTimeout_frozen (cfg : Cfg) (w : WaitUntil.WState) (r : Run) (hr : w.ret = some r) :
    WaitUntil.onTimeout cfg w = w := by
  simp [WaitUntil.onTimeout, hr]

theorem wu_drive_frozen (cfg : Cfg) (hist : List Evt) :
    ∀ (w : WaitUntil.WState) (r : Run), w.ret = some r → WaitUntil.drive cfg w hist = w := by
  induction hist with
  | nil =>
    intro w r hr
    show (if _ then _ else _) = w
    rw [wu_onTimeout_frozen cfg w r hr, ite_self]
  | cons e es ih =>
    intro w r hr
    show WaitUntil.drive cfg (WaitUntil.iter cfg w e) es = w
    rw [WaitUntil.iter, wu_onTimeout_frozen cfg w r hr, ite_self, wu_onMsg_frozen cfg w r hr]
    exact ih w r hr

theorem wu_iter_ret_and_pending (cfg : Cfg) (w : WaitUntil.WState) (e : Evt) (hr : w.ret = none) :
    (∀ r, (WaitUntil.iter cfg w e).ret = some r →
      r.1 = if Legacy.deadlineBefore cfg w.st e.t then w.st.trigTime + cfg.hold.getD 0 else e.t) ∧
      ((WaitUntil.iter cfg w e).ret = none → (WaitUntil.iter cfg w e).st.waiting = true →
        (WaitUntil.iter cfg w e).st.trigTime = e.t ∨
          (w.st.waiting = true ∧ (WaitUntil.iter cfg w e).st.trigTime = w.st.trigTime)) := by
  obtain ⟨st, ret⟩ := w
  dsimp only at hr ⊢
  subst hr
  unfold WaitUntil.iter
  cases hd : Legacy.deadlineBefore cfg st e.t with
  | false =>
    simp only [Bool.false_eq_true, if_false]
    obtain ⟨h2, hb⟩ := onMsg_both cfg st e.t e.k e.a rfl rfl
    refine ⟨fun r hr => ?_, fun _ => h2⟩
    rcases hb with ⟨_, h1⟩ | ⟨h1, _⟩ <;> rw [h1] at hr <;> cases hr
    rfl
  | true =>
    have hret : (WaitUntil.onTimeout cfg ⟨st, none⟩).ret = some (st.trigTime + cfg.hold.getD 0, st.info) := rfl
    simp only [if_true, wu_onMsg_frozen cfg _ _ hret, hret]
    exact ⟨fun r h => by cases h; rfl, fun h => nomatch h⟩

theorem wu_drive_ret_ge (cfg : Cfg) (hist : List Evt) :
    ∀ (w : WaitUntil.WState) (m : Nat), w.ret = none → (∀ e ∈ hist, m ≤ e.t) →
      (w.st.waiting = true → m ≤ w.st.trigTime + cfg.hold.getD 0) →
      ∀ r, (WaitUntil.drive cfg w hist).ret = some r → m ≤ r.1 := by
  induction hist with
  | nil =>
    intro w m hr _ hw r h
    change (if w.st.waiting = true then WaitUntil.onTimeout cfg w else w).ret = some r at h
    split at h
    · next hwt => simp [WaitUntil.onTimeout, hr] at h; exact h ▸ hw hwt
    · rw [hr] at h; cases h
  | cons e es ih =>
    intro w m hr hm hw r h
    change (WaitUntil.drive cfg (WaitUntil.iter cfg w e) es).ret = some r at h
    obtain ⟨f1, f2⟩ := wu_iter_ret_and_pending cfg w e hr
    have hme := hm e List.mem_cons_self
    cases hr2 : (WaitUntil.iter cfg w e).ret with
    | some r2 =>
      rw [wu_drive_frozen cfg es _ r2 hr2, hr2] at h
      cases h
      rw [f1 r hr2]
      split
      · next hd => exact hw (by simp [Legacy.deadlineBefore] at hd; exact hd.1)
      · exact hme
    | none =>
      refine ih _ m hr2 (fun e' he' => hm e' (List.mem_cons_of_mem _ he')) (fun hwt => ?_) r h
      rcases f2 hr2 hwt with h1 | ⟨h1, h2⟩
      · omega
      · rw [h2]; exact hw h1

/-- **the wake-up selection realises "first of"**: with an overall timeout `T` that coincides with no event, the
legacy loop returns what it would return without timeout if that comes before `T`, and the timeout otherwise -/
theorem driveT_eq (T : Nat) (cfg : Cfg) (hist : List Evt) :
    ∀ (w : WaitUntil.WState), (∀ r, w.ret = some r → r.1 < T) → (∀ e ∈ hist, e.t ≠ T) →
      hist.Pairwise (fun a b => a.t ≤ b.t) →
      WaitUntil.driveT T cfg w hist = cutT T (WaitUntil.drive cfg w hist).ret := by
  have frozen : ∀ hist (w : WaitUntil.WState) r, w.ret = some r → r.1 < T →
      WaitUntil.driveT T cfg w hist = cutT T (WaitUntil.drive cfg w hist).ret := by
    intro hist w r hr hlt
    rw [wu_drive_frozen cfg hist w r hr]
    cases hist <;> simp [WaitUntil.driveT, hr, cutT, hlt]
  induction hist with
  | nil =>
    intro w hinv _ _
    cases hr : w.ret with
    | some r => exact frozen [] w r hr (hinv r hr)
    | none =>
      cases hwt : w.st.waiting <;>
        simp [WaitUntil.driveT, WaitUntil.drive, WaitUntil.holdFirst, WaitUntil.onTimeout, hwt, hr, cutT]
  | cons e es ih =>
    intro w hinv hne hs
    obtain ⟨hs1, hs2⟩ := List.pairwise_cons.mp hs
    cases hr : w.ret with
    | some r => exact frozen _ w r hr (hinv r hr)
    | none =>
      simp only [WaitUntil.driveT, hr]
      split
      · -- the overall timeout is the next wake-up: whatever would be returned comes at or after `T`
        next hto =>
        simp only [WaitUntil.holdFirst, Bool.and_eq_true, Bool.not_eq_true', decide_eq_true_eq,
          Bool.and_eq_false_iff, decide_eq_false_iff_not] at hto
        have hge := wu_drive_ret_ge cfg (e :: es) w T hr
          (fun e' he' => by
            rcases List.mem_cons.mp he' with rfl | h
            · omega
            · have := hs1 e' h; omega)
          (fun hwt => by
            rcases hto.2 with h | h
            · rw [hwt] at h; cases h
            · omega)
        cases hd : (WaitUntil.drive cfg w (e :: es)).ret with
        | none => rfl
        | some r => simp [cutT, Nat.not_lt.mpr (hge r hd)]
      · -- otherwise whatever this iteration returns comes before `T`
        next hto =>
        refine ih _ (fun r2 hr2 => ?_) (fun e' he' => hne e' (List.mem_cons_of_mem _ he')) hs2
        have hneT := hne e List.mem_cons_self
        rw [(wu_iter_ret_and_pending cfg w e hr).1 r2 hr2]
        exact wake_lt hto hneT

/-! ## the timeline ignores changes that cause no evaluation -/

def isEval (e : Evt) : Bool :=
  match e.k with
  | .eval _ => true
  | _ => false

theorem spec_irrelevant (cfg : Cfg) (hist : List Evt) :
    ∀ st : SState, hist.Pairwise (fun a b => a.t ≤ b.t) →
      Spec.drive cfg st (hist.filter isEval) = Spec.drive cfg st hist := by
  induction hist with
  | nil => intro st _; rfl
  | cons e es ih =>
    intro st hs
    obtain ⟨h1, h2⟩ := List.pairwise_cons.mp hs
    by_cases he : isEval e = true
    · rw [List.filter_cons_of_pos he]
      exact ih _ h2
    · -- an event without evaluation only lets the timeline take the expiry step that the next event takes anyway
      have hx : onEvt cfg st e = expire cfg st e.t := by
        unfold onEvt
        cases hk : e.k with
        | eval b => exact absurd (by simp only [isEval, hk]) he
        | skip => rfl
        | unrelated => rfl
      rw [List.filter_cons_of_neg he, ih _ h2, Spec.drive, hx, drive_expire cfg es st e.t h1]

end PsModel.C05
