import PsModel.Model.C15
import PsModel.Spec.C15
/-! # C15 – lemmas

`Spec.wait` gets recursion equations over the history (`wait_nil`, `wait_cons`; `due` / `expire` are the deadline's
part in them), and the three waits (`Legacy.loop` under the invariant `Inv`, `Legacy.sleepExit`, `New.loop`) equal it by
induction on the history.  The set-up of both subsystems is "an exit with the tables as before the call, or
everything is subscribed" (`Legacy.setup_cases`, `New.start_cases`), and the clean-up undoes "everything is subscribed"
(`Legacy.cleanup_subscribed`, `New.stopAll_applied`).  `loop_after`: a history continued after the exit gives the same
exit.  The predicates that the property statements use come first. -/
namespace PsModel.C15
open Spec

variable (fl : Flags)

/-- all expressions given to the call parse -/
def WellFormed (cfg : Cfg) : Prop := New.parseAll cfg = true

/-- the call has no `state_hold` / `state_hold_false` (the fragment the first-of theorems speak about) -/
def NoHolds (cfg : Cfg) : Prop := Legacy.holdTrig cfg = Option.none

def NotRel : TimeSpec → Prop
  | .rel _ => False
  | _ => True

/-- a now-relative time trigger has a positive offset (`once(now + 0s)` coincides with the call itself) -/
def PosRel : TimeSpec → Prop
  | .rel d => 0 < d
  | _ => True

/-- the legacy time trigger is anchored at the call: always with the repaired loop, and with the pre-fix loop only
when the trigger is not now-relative -/
def Anchored (fl : Flags) (ts : TimeSpec) : Prop := fl.reanchor = true → NotRel ts

/-- the queue of this call is not yet in any table.  The legacy clean-up theorems assume it; for the new subsystem
`q ∉ tb.stSubs` is enough, because it lists subscribers only for state triggers and counts event / MQTT listeners. -/
def Fresh (q : Nat) (tb : Tables) : Prop := q ∉ tb.stSubs ∧ q ∉ tb.evSubs ∧ q ∉ tb.mqSubs

/-- an MQTT (webhook) filter that does not parse while an event trigger is given: the only exit by exception that
leaked before a3cf272 -/
def LeakyParse (cfg : Cfg) : Prop :=
  cfg.event.isSome = true ∧ ∃ m, cfg.mqtt = some m ∧ m.parseOK = false

/-- the instant of an exit; `.waiting` has none, and `0` is never looked at: the theorems that use `exitTime`
assume the exit is not `.waiting` -/
def exitTime : Exit → Nat
  | .ret t _ => t
  | .exc t _ => t
  | .cancelled t => t
  | .waiting => 0

theorem erase_append_self (l : List Nat) (q : Nat) (h : q ∉ l) : (l ++ [q]).erase q = l := by
  rw [List.erase_append_right _ h, List.erase_cons_head, List.append_nil]

def actExit : Act → Option Exit
  | .stop e => some e
  | _ => Option.none

theorem actExit_react (cfg : Cfg) (t : Nat) (it : Item) : actExit (react cfg t it) = outcome cfg t it := by
  cases it with
  | cancel => rfl
  | state v =>
    simp only [react, outcome]
    cases cfg.state with
    | none => rfl
    | some s =>
      simp only
      cases s.expr v with
      | none => rfl
      | some b => cases b <;> rfl
  | event d =>
    simp only [react, outcome]
    cases cfg.event with
    | none => rfl
    | some e =>
      simp only
      cases callFilt e.filt d with
      | none => rfl
      | some b => cases b <;> rfl

theorem wake_hasListen (cfg : Cfg) (t : Nat) (it : Item) (h : react cfg t it = .wake) : hasListen cfg = true := by
  cases it with
  | cancel => cases h
  | state v =>
    cases hs : cfg.state with
    | none => simp only [react, hs] at h; cases h
    | some s => simp only [hasListen, hs, Option.isSome_some, Bool.true_or]
  | event d =>
    cases he : cfg.event with
    | none => simp only [react, he] at h; cases h
    | some e => simp only [hasListen, he, Option.isSome_some, Bool.true_or, Bool.or_true]

/-- `c` is what the continuation that is taken amounts to (`Legacy.loop` has two continuations, `New.loop` one) -/
theorem onItem_eq (cfg : Cfg) (t : Nat) (it : Item) {a b c : Exit}
    (ha : react cfg t it = .wake → a = c) (hb : react cfg t it = .skip → b = c) :
    onItem cfg t it a b = (outcome cfg t it).getD c := by
  rw [← actExit_react]
  unfold onItem
  cases hr : react cfg t it with
  | stop e => rfl
  | wake => exact ha hr
  | skip => exact hb hr

/-- both continuations may be exchanged under a property `P` of the result, which the continuation taken inherits -/
theorem onItem_congr (cfg : Cfg) (t : Nat) (it : Item) {a b a' b' : Exit} (P : Exit → Prop)
    (hP : P (onItem cfg t it a b)) (ha : P a → a' = a) (hb : P b → b' = b) :
    onItem cfg t it a' b' = onItem cfg t it a b := by
  unfold onItem at hP ⊢
  revert hP
  cases react cfg t it with
  | stop e => intro _; rfl
  | wake => exact ha
  | skip => exact hb

theorem deadline_some {tn to : Option Nat} {d : Nat} {k : DKind} (h : deadline tn to = some (d, k)) :
    (∀ t, tn = some t → d ≤ t) ∧ (∀ o, to = some o → d ≤ o) ∧
    ((k = .time ∧ tn = some d) ∨ (k = .timeout ∧ to = some d)) := by
  cases tn <;> cases to <;> simp only [deadline] at h
  · cases h
  · cases h
    exact ⟨nofun, fun o ho => by cases ho; exact Nat.le_refl _, .inr ⟨rfl, rfl⟩⟩
  · cases h
    exact ⟨fun t ht => by cases ht; exact Nat.le_refl _, nofun, .inl ⟨rfl, rfl⟩⟩
  · rename_i t o
    split at h <;> cases h
    · exact ⟨fun t' ht => by cases ht; omega, fun o' ho => by cases ho; exact Nat.le_refl _, .inr ⟨rfl, rfl⟩⟩
    · exact ⟨fun t' ht => by cases ht; exact Nat.le_refl _, fun o' ho => by cases ho; omega, .inl ⟨rfl, rfl⟩⟩

theorem deadline_none (tn to : Option Nat) : deadline tn to = Option.none ↔ tn = Option.none ∧ to = Option.none := by
  cases tn <;> cases to <;> simp [deadline]
  split <;> simp

theorem deadlineAt_none {cfg : Cfg} {call : Nat} :
    deadlineAt cfg call = Option.none ↔ timeNext cfg.time call = Option.none ∧ cfg.timeout = Option.none := by
  unfold deadlineAt
  rw [deadline_none, Option.map_eq_none_iff]

theorem deadlineAt_le_timeout {cfg : Cfg} {call d : Nat} {k : DKind} (h : deadlineAt cfg call = some (d, k)) {T : Nat}
    (hT : cfg.timeout = some T) : d ≤ call + T :=
  (deadline_some h).2.1 (call + T) (by rw [hT]; rfl)

/-- the exit a deadline forces before an item at `t` is looked at -/
def due (D : Option (Nat × DKind)) (t : Nat) : Option Exit :=
  match D with
  | some (d, k) => if d < t then some (retOf d k) else Option.none
  | Option.none => Option.none

/-- the exit when nothing happens any more -/
def expire (D : Option (Nat × DKind)) : Exit :=
  match D with
  | some (d, k) => retOf d k
  | Option.none => .waiting

theorem due_eq_none {d t : Nat} {k : DKind} (h : due (some (d, k)) t = Option.none) : t ≤ d := by
  simp only [due] at h
  split at h
  · cases h
  · omega

theorem timeNext_gt (ts : TimeSpec) (hn : PosRel ts) (a T : Nat) (h : timeNext ts a = some T) : a < T := by
  cases ts with
  | none => cases h
  | rel d => simp only [PosRel] at hn; simp only [timeNext, Option.some.injEq] at h; omega
  | abs T' =>
    simp only [timeNext] at h
    split at h
    · cases h; assumption
    · cases h

theorem timeNext_stable (ts : TimeSpec) (hn : NotRel ts) (call anchor : Nat) (hle : call ≤ anchor)
    (h : ∀ T, timeNext ts call = some T → anchor < T) : timeNext ts anchor = timeNext ts call := by
  cases ts with
  | none => rfl
  | rel d => exact absurd hn (by simp [NotRel])
  | abs T =>
    simp only [timeNext] at h ⊢
    by_cases hc : call < T
    · have := h T (by simp [hc])
      simp [hc, this]
    · have : ¬ anchor < T := by omega
      simp [hc, this]

theorem firstDecisive_ge (cfg : Cfg) (hist : Hist) (lo : Nat) (hm : Mono lo hist) (t : Nat) (e : Exit)
    (h : firstDecisive cfg hist = some (t, e)) : lo < t := by
  induction hist generalizing lo with
  | nil => cases h
  | cons p rest ih =>
    obtain ⟨t0, it⟩ := p
    simp only [Mono] at hm
    simp only [firstDecisive] at h
    cases ho : outcome cfg t0 it with
    | some e0 => rw [ho] at h; cases h; exact hm.1
    | none =>
      rw [ho] at h
      have := ih t0 hm.2 h
      omega

theorem wait_nil (cfg : Cfg) (call : Nat) : wait cfg call [] = expire (deadlineAt cfg call) := by
  unfold wait expire firstDecisive
  cases deadlineAt cfg call <;> rfl

theorem wait_late {cfg : Cfg} {call d : Nat} {k : DKind} (hD : deadlineAt cfg call = some (d, k)) {lo : Nat}
    {hist : Hist} (hm : Mono lo hist) (h : d ≤ lo) : wait cfg call hist = retOf d k := by
  unfold wait
  rw [hD]
  cases hf : firstDecisive cfg hist with
  | none => rfl
  | some te =>
    obtain ⟨t, e⟩ := te
    have := firstDecisive_ge cfg hist lo hm t e hf
    exact if_pos (by omega)

theorem wait_cons (cfg : Cfg) (call : Nat) {t : Nat} (it : Item) {rest : Hist} (hm : Mono t rest) :
    wait cfg call ((t, it) :: rest) =
      (due (deadlineAt cfg call) t).getD ((outcome cfg t it).getD (wait cfg call rest)) := by
  cases hD : deadlineAt cfg call with
  | none =>
    simp only [wait, hD, firstDecisive, due, Option.getD_none]
    cases outcome cfg t it <;> rfl
  | some dk =>
    obtain ⟨d, k⟩ := dk
    by_cases hlt : d < t
    · have hm' : Mono d ((t, it) :: rest) := ⟨hlt, hm⟩
      rw [wait_late hD hm' (Nat.le_refl d)]
      simp only [due, hlt, if_true, Option.getD_some]
    · simp only [wait, hD, firstDecisive, due, hlt, if_false, Option.getD_none]
      cases outcome cfg t it with
      | none => rfl
      | some e => exact if_neg hlt

theorem no_trigger {cfg : Cfg} (h : ¬ (hasListen cfg || hasTime cfg) = true) :
    cfg.state = Option.none ∧ cfg.event = Option.none ∧ cfg.time = .none ∧ hasListen cfg = false := by
  simp only [Bool.not_eq_true, Bool.or_eq_false_iff] at h
  have hl := h.1
  simp only [hasListen, Bool.or_eq_false_iff, Option.isSome_eq_false_iff, Option.isNone_iff_eq_none] at hl
  exact ⟨hl.1.1, hl.1.2, by simpa [hasTime] using h.2, h.1⟩

theorem first_of_no_trigger {cfg : Cfg} (h : ¬ (hasListen cfg || hasTime cfg) = true) (v0 call : Nat) (hist : Hist) :
    first cfg v0 call hist =
      match cfg.timeout with
      | some _ => wait cfg call hist
      | Option.none => .ret call .none := by
  obtain ⟨hs, _, ht, hl⟩ := no_trigger h
  unfold first checkNow deadlineAt
  rw [hs, ht, hl]
  cases cfg.timeout <;> rfl

theorem noHolds_state (cfg : Cfg) (h : NoHolds cfg) (s : StateTrig) (hs : cfg.state = some s) :
    s.hold = Option.none ∧ s.holdFalse = Option.none := by
  unfold NoHolds Legacy.holdTrig at h
  rw [hs] at h
  simp only at h
  cases hh : s.hold <;> cases hf : s.holdFalse <;> simp [hh, hf] at h ⊢

/-- loop invariant of the legacy wait loop: the current `now` is not before the call, strictly before the
(call-anchored) deadline, and if there is no deadline somebody can still wake the loop -/
def Inv (cfg : Cfg) (call anchor : Nat) : Prop :=
  call ≤ anchor ∧ (∀ d k, deadlineAt cfg call = some (d, k) → anchor < d) ∧
  (deadlineAt cfg call = Option.none → hasListen cfg = true)

namespace Legacy

theorem loop_nil (cfg : Cfg) (call anchor : Nat) :
    loop fl cfg call [] anchor = (pre fl cfg call anchor).getD (expire (dl fl cfg call anchor)) := by
  unfold loop expire
  cases pre fl cfg call anchor with
  | some e => rfl
  | none => cases dl fl cfg call anchor <;> rfl

theorem loop_cons (cfg : Cfg) (call t : Nat) (it : Item) (rest : Hist) (anchor : Nat) :
    loop fl cfg call ((t, it) :: rest) anchor =
      (pre fl cfg call anchor).getD ((due (dl fl cfg call anchor) t).getD
        (onItem cfg t it (loop fl cfg call rest t) (loop fl cfg call rest anchor))) := by
  simp only [loop, due]
  cases pre fl cfg call anchor with
  | some e => rfl
  | none =>
    cases dl fl cfg call anchor with
    | none => rfl
    | some dk =>
      obtain ⟨d, k⟩ := dk
      by_cases h : d < t <;> simp only [h, if_true, if_false, Option.getD_some, Option.getD_none]

theorem tnext_call (ts : TimeSpec) (call : Nat) : tnext fl ts call call = timeNext ts call := by
  unfold tnext
  by_cases h : fl.reanchor = true
  · simp [h]
  · simp only [h, Bool.false_eq_true, if_false]
    cases ts <;> simp [timeNext]

theorem tnext_stable (ts : TimeSpec) (hn : Anchored fl ts) (call anchor : Nat) (hle : call ≤ anchor)
    (h : ∀ T, timeNext ts call = some T → anchor < T) : tnext fl ts call anchor = timeNext ts call := by
  unfold tnext
  by_cases hr : fl.reanchor = true
  · simp only [hr, if_true]
    exact timeNext_stable ts (hn hr) call anchor hle h
  · simp only [hr, Bool.false_eq_true, if_false]
    cases ts with
    | none => rfl
    | abs T => exact timeNext_stable (.abs T) trivial call anchor hle h
    | rel d =>
      have := h (call + d) (by simp [timeNext])
      simp [timeNext, this]

theorem dl_eq {cfg : Cfg} (hn : Anchored fl cfg.time) {call anchor : Nat} (h : Inv cfg call anchor) :
    dl fl cfg call anchor = deadlineAt cfg call := by
  unfold dl deadlineAt
  rw [tnext_stable fl cfg.time hn call anchor h.1]
  intro T hT
  cases hd : deadlineAt cfg call with
  | none => rw [(deadlineAt_none.1 hd).1] at hT; cases hT
  | some p => exact Nat.lt_of_lt_of_le (h.2.1 p.1 p.2 hd) ((deadline_some hd).1 T hT)

theorem pre_none {cfg : Cfg} (hn : Anchored fl cfg.time) {call anchor : Nat} (h : Inv cfg call anchor) :
    pre fl cfg call anchor = Option.none := by
  have hdl := dl_eq fl hn h
  unfold pre
  cases ht : cfg.timeout with
  | none =>
    -- no timeout: without a time instant either there is no deadline, and then somebody listens
    simp only [Bool.false_eq_true, if_false, Option.isNone_none, Bool.and_true]
    cases hc : tnext fl cfg.time call anchor with
    | some T => rfl
    | none =>
      have : deadlineAt cfg call = Option.none := by rw [← hdl, dl, hc, ht]; rfl
      simp only [h.2.2 this, Option.isNone_none, Bool.not_true, Bool.and_false, Bool.false_eq_true, if_false]
  | some T =>
    -- the timeout is not over: `anchor` is before the deadline, which is not after it
    cases hd : deadlineAt cfg call with
    | none => rw [(deadlineAt_none.1 hd).2] at ht; cases ht
    | some p =>
      have h1 := h.2.1 p.1 p.2 hd
      have h2 := deadlineAt_le_timeout hd ht
      have : ¬ (call + T ≤ anchor) := by omega
      simp only [this, decide_false, Bool.false_eq_true, if_false, Option.isNone_some, Bool.and_false, Bool.false_and]

/-- the waiting part of the specification without the "nothing can ever happen" clause -/
theorem loop_eq_wait {cfg : Cfg} (hn : Anchored fl cfg.time) {call : Nat} {hist : Hist} {anchor lo : Nat}
    (hlo : call ≤ lo) (hm : Mono lo hist) (hnt : NoTies cfg call hist) (hi : Inv cfg call anchor) :
    loop fl cfg call hist anchor = wait cfg call hist := by
  induction hist generalizing anchor lo with
  | nil => rw [loop_nil, pre_none fl hn hi, dl_eq fl hn hi, wait_nil]; rfl
  | cons p rest ih =>
    obtain ⟨t, it⟩ := p
    have hnt' : NoTies cfg call rest := fun q hq => hnt q (List.mem_cons_of_mem _ hq)
    rw [loop_cons, pre_none fl hn hi, dl_eq fl hn hi, wait_cons cfg call it hm.2]
    cases hdue : due (deadlineAt cfg call) t with
    | some e => rfl
    | none =>
      -- the item is looked at: it comes strictly before the deadline, so a wake-up keeps the invariant
      have hbefore : ∀ d k, deadlineAt cfg call = some (d, k) → t < d := fun d k hD =>
        Nat.lt_of_le_of_ne (due_eq_none (hD ▸ hdue)) (hnt (t, it) List.mem_cons_self d k hD)
      have hlt : lo < t := hm.1
      exact onItem_eq cfg t it
        (fun hr => ih (by omega) hm.2 hnt' ⟨by omega, hbefore, fun _ => wake_hasListen cfg t it hr⟩)
        (fun _ => ih (by omega) hm.2 hnt' hi)

theorem loop_of_pre {cfg : Cfg} {call anchor : Nat} {e : Exit} (h : pre fl cfg call anchor = some e)
    (hist : Hist) : loop fl cfg call hist anchor = e := by
  cases hist with
  | nil => rw [loop_nil, h]; rfl
  | cons p rest => rw [loop_cons, h]; rfl

theorem loop_eq_first {cfg : Cfg} (hn : Anchored fl cfg.time) (hp : PosRel cfg.time) {v0 call : Nat} {hist : Hist}
    (hm : Mono call hist) (hnt : NoTies cfg call hist) (hc : checkNow cfg v0 call = Option.none) :
    loop fl cfg call hist call = first cfg v0 call hist := by
  simp only [first, hc]
  by_cases h0 : cfg.timeout = some 0
  · -- timeout 0: over at once, and it is the deadline
    rw [loop_of_pre fl (e := .ret call .timeout) (by simp [pre, h0]) hist]
    cases hD : deadlineAt cfg call with
    | none => rw [(deadlineAt_none.1 hD).2] at h0; cases h0
    | some dk =>
      obtain ⟨d, k⟩ := dk
      have hle := deadlineAt_le_timeout hD h0
      rcases (deadline_some hD).2.2 with ⟨_, hT⟩ | ⟨hk, hT⟩
      · have := timeNext_gt _ hp _ _ hT
        omega
      · rw [h0] at hT
        cases hT
        rw [wait_late hD hm (Nat.le_refl _), hk]
        rfl
  · by_cases h1 : ((deadlineAt cfg call).isNone && !hasListen cfg) = true
    · -- nothing can ever happen
      rw [if_pos h1]
      simp only [Bool.and_eq_true, Option.isNone_iff_eq_none, Bool.not_eq_true'] at h1
      have hd := deadlineAt_none.1 h1.1
      exact loop_of_pre fl (by simp [pre, hd.2, tnext_call, hd.1, h1.2]) hist
    · rw [if_neg h1]
      refine loop_eq_wait fl hn (Nat.le_refl _) hm hnt ⟨Nat.le_refl _, ?_, ?_⟩
      · -- the deadline is the time trigger's next instant or a timeout that is not 0
        intro d k hD
        rcases (deadline_some hD).2.2 with ⟨_, hT⟩ | ⟨_, hT⟩
        · exact timeNext_gt _ hp _ _ hT
        · cases ht : cfg.timeout with
          | none => rw [ht] at hT; cases hT
          | some T =>
            rw [ht] at hT h0
            cases hT
            have : T ≠ 0 := fun e => h0 (by rw [e])
            show call < call + T
            omega
      · intro hD
        simpa [hD] using h1

theorem sleepExit_eq_wait {cfg : Cfg} (h : ¬ (hasListen cfg || hasTime cfg) = true) {call T : Nat}
    (hT : cfg.timeout = some T) {hist : Hist} {lo : Nat} (hm : Mono lo hist) :
    sleepExit call T hist = wait cfg call hist := by
  obtain ⟨hs, he, ht, _⟩ := no_trigger h
  have hD : deadlineAt cfg call = some (call + T, .timeout) := by unfold deadlineAt; rw [ht, hT]; rfl
  induction hist generalizing lo with
  | nil => rw [wait_nil, hD]; rfl
  | cons p rest ih =>
    obtain ⟨t, it⟩ := p
    rw [wait_cons cfg call it hm.2, hD, ← ih hm.2]
    simp only [sleepExit, due, retOf]
    by_cases hlt : call + T < t
    · simp only [hlt, if_true, Option.getD_some]
    · simp only [hlt, if_false, Option.getD_none]
      cases it with
      | cancel => rfl
      | state v => simp only [outcome, hs, Option.getD_none]
      | event d => simp only [outcome, he, Option.getD_none]

theorem waitLoop_noHolds (cfg : Cfg) (h : NoHolds cfg) (v0 call : Nat) (hist : Hist) :
    waitLoop fl cfg v0 call hist = loop fl cfg call hist call := by
  unfold waitLoop; rw [h]

end Legacy

namespace New

theorem loop_nil (cfg : Cfg) (call : Nat) : loop fl cfg call [] = expire (dl fl cfg call) := by
  unfold loop expire
  cases dl fl cfg call <;> rfl

theorem loop_cons (cfg : Cfg) (call t : Nat) (it : Item) (rest : Hist) :
    loop fl cfg call ((t, it) :: rest) =
      (due (dl fl cfg call) t).getD (onItem cfg t it (loop fl cfg call rest) (loop fl cfg call rest)) := by
  simp only [loop, due]
  cases dl fl cfg call with
  | none => rfl
  | some dk =>
    obtain ⟨d, k⟩ := dk
    by_cases h : d < t <;> simp only [h, if_true, if_false, Option.getD_some, Option.getD_none]

theorem loop_eq_wait {cfg : Cfg} {call : Nat} (hd : dl fl cfg call = deadlineAt cfg call) {hist : Hist} {lo : Nat}
    (hm : Mono lo hist) : loop fl cfg call hist = wait cfg call hist := by
  induction hist generalizing lo with
  | nil => rw [loop_nil, hd, wait_nil]
  | cons p rest ih =>
    obtain ⟨t, it⟩ := p
    rw [loop_cons, hd, wait_cons cfg call it hm.2, onItem_eq cfg t it (fun _ => ih hm.2) (fun _ => ih hm.2)]

theorem effTimeout_eq (cfg : Cfg) (h : fl.timeout0Absent = true → cfg.timeout ≠ some 0) :
    effTimeout fl cfg = cfg.timeout := by
  unfold effTimeout
  by_cases hf : fl.timeout0Absent = true
  · simp only [hf, if_true]
    split
    · rename_i h0; exact absurd h0 (h hf)
    · rfl
  · simp [hf]

theorem waitLoop_noHolds (cfg : Cfg) (h : NoHolds cfg) (v0 call : Nat) (hist : Hist) :
    waitLoop fl cfg v0 call hist = loop fl cfg call hist := by
  unfold waitLoop; rw [h]

end New

theorem wellFormed_parts {cfg : Cfg} (h : WellFormed cfg) :
    cfg.state.all (·.parseOK) = true ∧ cfg.event.all (·.parseOK) = true ∧ cfg.mqtt.all (·.parseOK) = true := by
  have : New.parseAll cfg =
      (cfg.state.all (·.parseOK) && cfg.event.all (·.parseOK) && cfg.mqtt.all (·.parseOK)) := by
    unfold New.parseAll
    cases cfg.state <;> cases cfg.event <;> cases cfg.mqtt <;> rfl
  rw [WellFormed, this, Bool.and_eq_true, Bool.and_eq_true] at h
  exact ⟨h.1.1, h.1.2, h.2⟩

/-- the exit decided by the start-up check of the state trigger, if any: the expression raises, or it is true and
no hold has to pass first.  `Legacy.stateStage` (after parsing) is this check followed by the subscription,
`New.stateStart` the subscription followed by this check, which takes it back on an exit. -/
def startExit (cfg : Cfg) (v0 call : Nat) : Option Exit :=
  match cfg.state with
  | Option.none => Option.none
  | some s =>
    if s.checkOnStart then
      match s.expr v0 with
      | Option.none => some (.exc call .eval)
      | some true => if s.immediate then some (.ret call (.state Option.none)) else Option.none
      | some false => Option.none
    else Option.none

theorem startExit_noHolds {cfg : Cfg} (h : NoHolds cfg) (v0 call : Nat) :
    startExit cfg v0 call = checkNow cfg v0 call := by
  unfold startExit checkNow
  cases hs : cfg.state with
  | none => rfl
  | some s =>
    have hh := noHolds_state cfg h s hs
    simp only [StateTrig.checkOnStart, StateTrig.immediate, hh.1, hh.2, Option.isSome_none, Bool.or_false,
      Option.isNone_none, Bool.and_true]
    cases s.checkNow with
    | false => rfl
    | true =>
      simp only [if_true]
      cases s.expr v0 with
      | none => rfl
      | some b => cases b <;> rfl

theorem startExit_leavesRunning {cfg : Cfg} {v0 call : Nat} {e : Exit} (h : startExit cfg v0 call = some e) :
    e.leavesRunning = false := by
  unfold startExit at h
  cases hs : cfg.state with
  | none => rw [hs] at h; cases h
  | some s =>
    rw [hs] at h
    simp only at h
    split at h
    · split at h
      · cases h; rfl
      · split at h
        · cases h; rfl
        · cases h
      · cases h
    · cases h

theorem stDel_stAdd (tb : Tables) (q : Nat) (h : q ∉ tb.stSubs) : (tb.stAdd q).stDel q = tb := by
  obtain ⟨a, b, c, d, e, f⟩ := tb
  simp only [Tables.stAdd, Tables.stDel] at h ⊢
  rw [erase_append_self a q h]

theorem evDel_evAdd (tb : Tables) (q : Nat) (h : q ∉ tb.evSubs) : (tb.evAdd q).evDel q = tb := by
  obtain ⟨a, b, c, d, e, f⟩ := tb
  simp only at h
  simp only [Tables.evAdd, Tables.evDel, if_neg h, List.mem_append, List.mem_singleton, or_true, if_true,
    erase_append_self b q h]
  by_cases hb : b = [] <;> simp [hb]

theorem mqDel_mqAdd (tb : Tables) (q : Nat) (h : q ∉ tb.mqSubs) : (tb.mqAdd q).mqDel q = tb := by
  obtain ⟨a, b, c, d, e, f⟩ := tb
  simp only at h
  simp only [Tables.mqAdd, Tables.mqDel, if_neg h, List.mem_append, List.mem_singleton, or_true, if_true,
    erase_append_self d q h]
  by_cases hd : d = [] <;> simp [hd]

theorem mem_evAdd (tb : Tables) (q : Nat) : q ∈ (tb.evAdd q).evSubs := by
  unfold Tables.evAdd
  split
  · assumption
  · exact List.mem_append_right _ (List.mem_singleton_self q)

theorem mem_mqAdd (tb : Tables) (q : Nat) : q ∈ (tb.mqAdd q).mqSubs := by
  unfold Tables.mqAdd
  split
  · assumption
  · exact List.mem_append_right _ (List.mem_singleton_self q)

theorem stDel_fresh (tb : Tables) (q : Nat) (h : q ∉ tb.stSubs) : tb.stDel q = tb := by
  obtain ⟨a, b, c, d, e, f⟩ := tb
  simp only [Tables.stDel, List.erase_of_not_mem h]

theorem evDel_fresh (tb : Tables) (q : Nat) (h : q ∉ tb.evSubs) : tb.evDel q = tb := if_neg h

theorem mqDel_fresh (tb : Tables) (q : Nat) (h : q ∉ tb.mqSubs) : tb.mqDel q = tb := if_neg h

theorem stDel_evAdd (tb : Tables) (q : Nat) : (tb.evAdd q).stDel q = (tb.stDel q).evAdd q := rfl

theorem stDel_mqAdd (tb : Tables) (q : Nat) : (tb.mqAdd q).stDel q = (tb.stDel q).mqAdd q := rfl

theorem evDel_mqAdd (tb : Tables) (q : Nat) : (tb.mqAdd q).evDel q = (tb.evDel q).mqAdd q := by
  show (if q ∈ tb.evSubs then _ else _) = Tables.mqAdd (if q ∈ tb.evSubs then _ else _) q
  split <;> rfl

namespace Legacy

/-- tables after the three subscription stages of the legacy set-up -/
def subscribed (cfg : Cfg) (q : Nat) (tb : Tables) : Tables :=
  let t1 := if cfg.state.isSome then tb.stAdd q else tb
  let t2 := if cfg.event.isSome then t1.evAdd q else t1
  if cfg.mqtt.isSome then t2.mqAdd q else t2

theorem subscribed_of_not_hasListen (cfg : Cfg) (q : Nat) (tb : Tables) (h : hasListen cfg = false) :
    subscribed cfg q tb = tb := by
  simp only [hasListen, Bool.or_eq_false_iff] at h
  simp only [subscribed, h.1.1, h.1.2, h.2, Bool.false_eq_true, if_false]

theorem mem_subscribed (cfg : Cfg) (q : Nat) (tb : Tables) (hl : hasListen cfg = true) :
    q ∈ (subscribed cfg q tb).stSubs ∨ q ∈ (subscribed cfg q tb).evSubs ∨ q ∈ (subscribed cfg q tb).mqSubs := by
  unfold subscribed
  cases hm : cfg.mqtt.isSome with
  | true => exact .inr (.inr (mem_mqAdd _ q))
  | false =>
    cases he : cfg.event.isSome with
    | true => exact .inr (.inl (mem_evAdd _ q))
    | false =>
      cases hs : cfg.state.isSome with
      | true => exact .inl (List.mem_append_right _ (List.mem_singleton_self q))
      | false => rw [hasListen, hs, he, hm] at hl; cases hl

theorem subscribed_ne (cfg : Cfg) (q : Nat) (tb : Tables) (hf : Fresh q tb) (hl : hasListen cfg = true) :
    subscribed cfg q tb ≠ tb := fun heq =>
  (heq ▸ mem_subscribed cfg q tb hl).elim hf.1 (·.elim hf.2.1 hf.2.2)

theorem cleanup_fresh (cfg : Cfg) (q : Nat) (tb : Tables) (hf : Fresh q tb) : cleanup cfg q tb = tb := by
  simp only [cleanup, stDelIf, stDel_fresh tb q hf.1, evDel_fresh tb q hf.2.1, mqDel_fresh tb q hf.2.2, ite_self]

theorem cleanup_subscribed (cfg : Cfg) (q : Nat) (tb : Tables) (hf : Fresh q tb) :
    cleanup cfg q (subscribed cfg q tb) = tb := by
  obtain ⟨h1, h2, h3⟩ := hf
  unfold cleanup subscribed stDelIf
  cases cfg.state.isSome <;> cases cfg.event.isSome <;> cases cfg.mqtt.isSome <;>
    simp only [Bool.false_eq_true, if_false, if_true, stDel_evAdd, stDel_mqAdd, evDel_mqAdd, stDel_stAdd _ _ h1,
      evDel_evAdd _ _ h2, mqDel_mqAdd _ _ h3]

theorem stDelIf_stAdd (cfg : Cfg) (q : Nat) (tb : Tables) (h : q ∉ tb.stSubs) :
    stDelIf cfg q (if cfg.state.isSome then tb.stAdd q else tb) = tb := by
  unfold stDelIf
  cases cfg.state.isSome with
  | false => rfl
  | true => exact stDel_stAdd tb q h

theorem stDelIf_evAdd (cfg : Cfg) (q : Nat) (tb : Tables) :
    stDelIf cfg q (tb.evAdd q) = (stDelIf cfg q tb).evAdd q := by
  unfold stDelIf
  cases cfg.state.isSome <;> rfl

theorem cleanup_evAdd (cfg : Cfg) (q : Nat) (tb : Tables) (hf : Fresh q tb) (he : cfg.event.isSome = true) :
    cleanup cfg q (tb.evAdd q) = tb := by
  simp only [cleanup, stDelIf, he, if_true, stDel_evAdd, stDel_fresh tb q hf.1, ite_self,
    evDel_evAdd tb q hf.2.1, mqDel_fresh tb q hf.2.2]

theorem onParseError_state (cfg : Cfg) (q : Nat) (tb : Tables) (hf : Fresh q tb) :
    onParseError fl cfg q (if cfg.state.isSome then tb.stAdd q else tb) = tb := by
  unfold onParseError
  rw [stDelIf_stAdd cfg q tb hf.1, cleanup_fresh cfg q tb hf, ite_self]

/-- the `except:` branch of the MQTT filter leaves the event subscription; only the `finally` takes it back -/
theorem onParseError_event (cfg : Cfg) (q : Nat) (tb : Tables) (hf : Fresh q tb) (he : cfg.event.isSome = true) :
    onParseError fl cfg q ((if cfg.state.isSome then tb.stAdd q else tb).evAdd q) =
      if fl.legacyNoFinally then tb.evAdd q else tb := by
  unfold onParseError
  rw [stDelIf_evAdd, stDelIf_stAdd cfg q tb hf.1, cleanup_evAdd cfg q tb hf he]

theorem stateStage_eq (cfg : Cfg) (q : Nat) (tb : Tables) (v0 call : Nat) :
    stateStage cfg q tb v0 call =
      if cfg.state.all (·.parseOK) then
        match startExit cfg v0 call with
        | some e => .error (e, tb)
        | Option.none => .ok (if cfg.state.isSome then tb.stAdd q else tb)
      else .error (.exc call .parse, tb) := by
  unfold stateStage startExit
  cases cfg.state with
  | none => rfl
  | some s =>
    simp only [Option.all_some, Option.isSome_some, if_true]
    cases s.parseOK with
    | false => rfl
    | true =>
      simp only [Bool.not_true, Bool.false_eq_true, if_false, if_true]
      cases s.checkOnStart with
      | false => rfl
      | true =>
        simp only [if_true]
        cases s.expr v0 with
        | none => rfl
        | some b =>
          cases b with
          | false => rfl
          | true => cases s.immediate <;> rfl

theorem eventStage_eq (cfg : Cfg) (q : Nat) (t : Tables) (call : Nat) :
    eventStage fl cfg q t call =
      if cfg.event.all (·.parseOK) then .ok (if cfg.event.isSome then t.evAdd q else t)
      else .error (.exc call .parse, onParseError fl cfg q t) := by
  unfold eventStage
  cases cfg.event with
  | none => rfl
  | some e =>
    obtain ⟨f, p⟩ := e
    cases p <;> rfl

theorem mqttStage_eq (cfg : Cfg) (q : Nat) (t : Tables) (call : Nat) :
    mqttStage fl cfg q t call =
      if cfg.mqtt.all (·.parseOK) then .ok (if cfg.mqtt.isSome then t.mqAdd q else t)
      else .error (.exc call .parse, onParseError fl cfg q t) := by
  unfold mqttStage
  cases cfg.mqtt with
  | none => rfl
  | some m =>
    obtain ⟨p⟩ := m
    cases p <;> rfl

theorem setup_cases (cfg : Cfg) (q : Nat) (tb : Tables) (v0 call : Nat) :
    (∃ e t', setup fl cfg q tb v0 call = .error (e, t') ∧ e.leavesRunning = false ∧
      (Fresh q tb → (fl.legacyNoFinally = true → ¬ LeakyParse cfg) → t' = tb)) ∨
    setup fl cfg q tb v0 call = .ok (subscribed cfg q tb) := by
  unfold setup
  simp only [stateStage_eq, eventStage_eq, mqttStage_eq, bind, Except.bind]
  cases cfg.state.all (·.parseOK) with
  | false => exact .inl ⟨_, _, rfl, rfl, fun _ _ => rfl⟩
  | true =>
    cases hx : startExit cfg v0 call with
    | some e => exact .inl ⟨e, _, rfl, startExit_leavesRunning hx, fun _ _ => rfl⟩
    | none =>
      cases cfg.event.all (·.parseOK) with
      | false => exact .inl ⟨_, _, rfl, rfl, fun hf _ => onParseError_state fl cfg q tb hf⟩
      | true =>
        cases hmq : cfg.mqtt.all (·.parseOK) with
        | true => exact .inr rfl
        | false =>
          refine .inl ⟨_, _, rfl, rfl, fun hf hleak => ?_⟩
          cases hev : cfg.event.isSome with
          | false => exact onParseError_state fl cfg q tb hf
          | true =>
            show onParseError fl cfg q ((if cfg.state.isSome then tb.stAdd q else tb).evAdd q) = tb
            rw [onParseError_event fl cfg q tb hf hev]
            cases hfl : fl.legacyNoFinally with
            | false => rfl
            | true =>
              refine absurd ⟨hev, ?_⟩ (hleak hfl)
              cases hm : cfg.mqtt with
              | none => rw [hm] at hmq; cases hmq
              | some m => exact ⟨m, rfl, by rw [hm] at hmq; exact hmq⟩

theorem setup_eq (cfg : Cfg) (hwf : WellFormed cfg) (q : Nat) (tb : Tables) (v0 call : Nat) :
    setup fl cfg q tb v0 call =
      match startExit cfg v0 call with
      | some e => .error (e, tb)
      | Option.none => .ok (subscribed cfg q tb) := by
  obtain ⟨h1, h2, h3⟩ := wellFormed_parts hwf
  unfold setup
  simp only [stateStage_eq, eventStage_eq, mqttStage_eq, h1, h2, h3, if_true, bind, Except.bind]
  cases startExit cfg v0 call <;> rfl

theorem run_of_trigger {cfg : Cfg} {q : Nat} {tb : Tables} {v0 call : Nat} {hist : Hist}
    (h : (hasListen cfg || hasTime cfg) = true) :
    run fl cfg q tb v0 call hist =
      match setup fl cfg q tb v0 call with
      | .error r => r
      | .ok tb1 => (waitLoop fl cfg v0 call hist,
          if keeps fl (waitLoop fl cfg v0 call hist) then tb1 else cleanup cfg q tb1) := by
  unfold run
  rw [if_neg (by rw [h]; decide)]
  rfl

theorem run_of_no_trigger {cfg : Cfg} {q : Nat} {tb : Tables} {v0 call : Nat} {hist : Hist}
    (h : ¬ (hasListen cfg || hasTime cfg) = true) :
    run fl cfg q tb v0 call hist =
      match cfg.timeout with
      | some T => (sleepExit call T hist, tb)
      | Option.none => (.ret call .none, tb) := by
  unfold run
  rw [if_pos (by rw [Bool.not_eq_true] at h; rw [h]; rfl)]
  rfl

end Legacy

namespace New

/-- the cumulative effect of the `start` calls recorded in `s` -/
def applied (q : Nat) (s : Started) (tb : Tables) : Tables :=
  { tb with stSubs := if s.st then tb.stSubs ++ [q] else tb.stSubs,
            tasks := tb.tasks + (if s.to then 1 else 0) + (if s.st then 1 else 0) + (if s.tm then 1 else 0),
            evListeners := tb.evListeners + (if s.ev then 1 else 0),
            mqListeners := tb.mqListeners + (if s.mq then 1 else 0) }

/-- `stopAll` written the way `applied` is: every started decorator takes back what `applied` gives it -/
theorem stopAll_eq (q : Nat) (s : Started) (tb : Tables) :
    stopAll q s tb =
      { tb with stSubs := if s.st then tb.stSubs.erase q else tb.stSubs,
                tasks := tb.tasks - (if s.to then 1 else 0) - (if s.st then 1 else 0) - (if s.tm then 1 else 0),
                evListeners := tb.evListeners - (if s.ev then 1 else 0),
                mqListeners := tb.mqListeners - (if s.mq then 1 else 0) } := by
  -- each of the five conditional updates becomes an unconditional one (splitting on the five flags means 32 cases)
  have hT : ∀ (c : Bool) (t : Tables), (if c then { t with tasks := t.tasks - 1 } else t) =
      { t with tasks := t.tasks - (if c then 1 else 0) } := fun c t => by cases c <;> rfl
  have hS : ∀ (c : Bool) (t : Tables),
      (if c then { t with tasks := t.tasks - 1, stSubs := t.stSubs.erase q } else t) =
      { t with tasks := t.tasks - (if c then 1 else 0), stSubs := if c then t.stSubs.erase q else t.stSubs } :=
    fun c t => by cases c <;> rfl
  have hE : ∀ (c : Bool) (t : Tables), (if c then { t with evListeners := t.evListeners - 1 } else t) =
      { t with evListeners := t.evListeners - (if c then 1 else 0) } := fun c t => by cases c <;> rfl
  have hM : ∀ (c : Bool) (t : Tables), (if c then { t with mqListeners := t.mqListeners - 1 } else t) =
      { t with mqListeners := t.mqListeners - (if c then 1 else 0) } := fun c t => by cases c <;> rfl
  unfold stopAll
  simp -zeta only [hT, hS, hE, hM]
  rfl

theorem stopAll_applied (q : Nat) (s : Started) (tb : Tables) (h : q ∉ tb.stSubs) :
    stopAll q s (applied q s tb) = tb := by
  obtain ⟨a, b, c, d, e, f⟩ := tb
  rw [stopAll_eq]
  simp only [applied, Tables.mk.injEq, true_and]
  refine ⟨?_, ?_, ?_, ?_⟩
  · cases s.st
    · rfl
    · exact erase_append_self a q h
  · exact Nat.add_sub_cancel _ _
  · exact Nat.add_sub_cancel _ _
  · omega

/-- the decorators that are running after a successful `start` -/
def started (fl : Flags) (cfg : Cfg) (call : Nat) : Started :=
  { to := (effTimeout fl cfg).isSome, st := cfg.state.isSome,
    tm := hasTime cfg && (timeNext cfg.time call).isSome, ev := cfg.event.isSome, mq := cfg.mqtt.isSome }

/-- a time trigger without future instant ends the call with `none` -/
def expiredNone (fl : Flags) (cfg : Cfg) (call : Nat) : Bool :=
  hasTime cfg && (timeNext cfg.time call).isNone && noneNow fl cfg

/-! The stages of `start` in registry order.  Each starts from `applied q s tb` for the flags `s` set so far (the later
ones still unset, which is what makes the new `applied` the old one plus this decorator's share by `rfl`). -/

theorem timeoutStart_applied (cfg : Cfg) (q : Nat) (tb : Tables) :
    timeoutStart fl cfg {} tb =
      .ok ({ to := (effTimeout fl cfg).isSome }, applied q { to := (effTimeout fl cfg).isSome } tb) := by
  unfold timeoutStart
  cases (effTimeout fl cfg).isSome <;> rfl

theorem stateStart_applied (cfg : Cfg) (q : Nat) (tb : Tables) (v0 call : Nat) (b : Bool) :
    stateStart cfg q v0 call { to := b } (applied q { to := b } tb) =
      match startExit cfg v0 call with
      | some e => .error (e, stopAll q { to := b, st := true } (applied q { to := b, st := true } tb))
      | Option.none => .ok ({ to := b, st := cfg.state.isSome }, applied q { to := b, st := cfg.state.isSome } tb) := by
  unfold stateStart startExit
  cases cfg.state with
  | none => rfl
  | some s =>
    have happ : ({ applied q { to := b } tb with
          stSubs := (applied q { to := b } tb).stSubs ++ [q],
          tasks := (applied q { to := b } tb).tasks + 1 } : Tables)
        = applied q { to := b, st := true } tb := rfl
    simp only [happ]
    cases s.checkOnStart with
    | false => rfl
    | true =>
      simp only [if_true]
      cases s.expr v0 with
      | none => rfl
      | some ok =>
        cases ok with
        | false => rfl
        | true => cases s.immediate <;> rfl

theorem timeStart_applied (cfg : Cfg) (q : Nat) (tb : Tables) (call : Nat) (b c : Bool) :
    timeStart fl cfg q call { to := b, st := c } (applied q { to := b, st := c } tb) =
      if expiredNone fl cfg call then
        .error (.ret call .none, stopAll q { to := b, st := c, tm := true } (applied q { to := b, st := c, tm := true } tb))
      else .ok ({ to := b, st := c, tm := hasTime cfg && (timeNext cfg.time call).isSome },
                applied q { to := b, st := c, tm := hasTime cfg && (timeNext cfg.time call).isSome } tb) := by
  unfold timeStart expiredNone
  cases hasTime cfg with
  | false => rfl
  | true =>
    cases timeNext cfg.time call with
    | some T => rfl
    | none => cases noneNow fl cfg <;> rfl

theorem eventStart_applied (cfg : Cfg) (q : Nat) (tb : Tables) (b c d : Bool) :
    eventStart cfg { to := b, st := c, tm := d } (applied q { to := b, st := c, tm := d } tb) =
      .ok ({ to := b, st := c, tm := d, ev := cfg.event.isSome },
           applied q { to := b, st := c, tm := d, ev := cfg.event.isSome } tb) := by
  unfold eventStart
  cases cfg.event.isSome <;> rfl

theorem mqttStart_applied (cfg : Cfg) (q : Nat) (tb : Tables) (b c d e : Bool) :
    mqttStart cfg { to := b, st := c, tm := d, ev := e } (applied q { to := b, st := c, tm := d, ev := e } tb) =
      .ok ({ to := b, st := c, tm := d, ev := e, mq := cfg.mqtt.isSome },
           applied q { to := b, st := c, tm := d, ev := e, mq := cfg.mqtt.isSome } tb) := by
  unfold mqttStart
  cases cfg.mqtt.isSome <;> rfl

theorem start_eq (cfg : Cfg) (q : Nat) (tb : Tables) (v0 call : Nat) :
    start fl cfg q tb v0 call =
      match startExit cfg v0 call with
      | some e => .error (e, stopAll q { to := (effTimeout fl cfg).isSome, st := true }
                              (applied q { to := (effTimeout fl cfg).isSome, st := true } tb))
      | Option.none =>
        if expiredNone fl cfg call then
          .error (.ret call .none,
            stopAll q { to := (effTimeout fl cfg).isSome, st := cfg.state.isSome, tm := true }
              (applied q { to := (effTimeout fl cfg).isSome, st := cfg.state.isSome, tm := true } tb))
        else .ok (started fl cfg call, applied q (started fl cfg call) tb) := by
  unfold start afterState
  rw [timeoutStart_applied fl cfg q tb]
  simp only [Stage.andThen]
  rw [stateStart_applied cfg q tb v0 call]
  cases startExit cfg v0 call with
  | some e => rfl
  | none =>
    simp only
    rw [timeStart_applied fl cfg q tb call]
    by_cases h : expiredNone fl cfg call = true
    · simp only [h, if_true]
    · simp only [h, Bool.false_eq_true, if_false]
      rw [eventStart_applied cfg q tb]
      simp only
      rw [mqttStart_applied cfg q tb]
      rfl

theorem start_cases (cfg : Cfg) (q : Nat) (tb : Tables) (v0 call : Nat) (hf : q ∉ tb.stSubs) :
    (∃ e, start fl cfg q tb v0 call = .error (e, tb) ∧ e.leavesRunning = false) ∨
    start fl cfg q tb v0 call = .ok (started fl cfg call, applied q (started fl cfg call) tb) := by
  rw [start_eq]
  cases h : startExit cfg v0 call with
  | some e => exact .inl ⟨e, by rw [stopAll_applied q _ tb hf], startExit_leavesRunning h⟩
  | none =>
    by_cases hx : expiredNone fl cfg call = true
    · exact .inl ⟨.ret call .none, by simp only [hx, if_true, stopAll_applied q _ tb hf], rfl⟩
    · exact .inr (by simp only [hx, Bool.false_eq_true, if_false])

theorem run_cases (cfg : Cfg) (q : Nat) (tb : Tables) (v0 call : Nat) :
    (∃ e, e.leavesRunning = false ∧ ∀ hist, run fl cfg q tb v0 call hist = (e, tb)) ∨
    ∀ hist, run fl cfg q tb v0 call hist = finish fl cfg q v0 call hist (start fl cfg q tb v0 call) := by
  unfold run
  by_cases h1 : noKwargs cfg = true
  · exact .inl ⟨.ret call .none, rfl, fun _ => if_pos h1⟩
  by_cases h2 : (!parseAll cfg) = true
  · exact .inl ⟨.exc call .parse, rfl, fun _ => (if_neg h1).trans (if_pos h2)⟩
  by_cases h3 : noDecorators fl cfg = true
  · exact .inl ⟨.exc call .runtime, rfl, fun _ => (if_neg h1).trans ((if_neg h2).trans (if_pos h3))⟩
  · exact .inr fun _ => (if_neg h1).trans ((if_neg h2).trans (if_neg h3))

/-- "nothing can ever happen" of the specification is, once some argument is given, the new subsystem's time
trigger without future instant that dispatches `none` -/
theorem expiredNone_eq (cfg : Cfg) (call : Nat) (heff : effTimeout fl cfg = cfg.timeout)
    (hdead : fl.noneEager = true → hasTime cfg = true →
      (timeNext cfg.time call).isSome = true ∨ (hasListen cfg = false ∧ cfg.timeout = Option.none))
    (hk : noKwargs cfg = false) :
    expiredNone fl cfg call = ((deadlineAt cfg call).isNone && !hasListen cfg) := by
  unfold expiredNone noneNow noKwargs at *
  rw [heff]
  cases hD : deadlineAt cfg call with
  | none =>
    obtain ⟨h1, h2⟩ := deadlineAt_none.1 hD
    rw [h2] at hk
    rw [h1, h2]
    cases hl : hasListen cfg <;> cases ht : hasTime cfg <;> simp_all
  | some dk =>
    have : ¬ (timeNext cfg.time call = Option.none ∧ cfg.timeout = Option.none) := fun h => by
      rw [deadlineAt_none.2 h] at hD; cases hD
    cases h1 : timeNext cfg.time call with
    | some T => simp
    | none =>
      cases h2 : cfg.timeout with
      | none => exact absurd ⟨h1, h2⟩ this
      | some T =>
        cases ht : hasTime cfg with
        | false => simp
        | true =>
          cases he : fl.noneEager with
          | false => simp
          | true =>
            rcases hdead he ht with h | h
            · rw [h1] at h; cases h
            · rw [h2] at h; cases h.2

end New

theorem keeps_current {e : Exit} (h : e ≠ .waiting) :
    Legacy.keeps Flags.current e = false ∧ New.keeps Flags.current e = false := by
  cases e with
  | waiting => exact absurd rfl h
  | _ => exact ⟨rfl, rfl⟩

theorem exitTime_retOf (d : Nat) (k : DKind) : exitTime (retOf d k) = d := by cases k <;> rfl

/-- the wait has ended with `e`, before anything of `later` happens -/
def Settled (later : Hist) (e : Exit) : Prop := e ≠ .waiting ∧ ∀ p ∈ later, exitTime e < p.1

theorem due_of_settled {D : Option (Nat × DKind)} {p : Nat × Item} {later : Hist}
    (h : Settled (p :: later) (expire D)) : due D p.1 = some (expire D) := by
  cases D with
  | none => exact absurd rfl h.1
  | some dk =>
    obtain ⟨d, k⟩ := dk
    have := h.2 p List.mem_cons_self
    simp only [expire, exitTime_retOf] at this
    simp only [due, expire, this, if_true]

namespace Legacy

theorem loop_after {cfg : Cfg} {call : Nat} {hist later : Hist} {anchor : Nat}
    (h : Settled later (loop fl cfg call hist anchor)) :
    loop fl cfg call (hist ++ later) anchor = loop fl cfg call hist anchor := by
  induction hist generalizing anchor with
  | nil =>
    cases later with
    | nil => rfl
    | cons p r =>
      rw [loop_nil] at h ⊢
      obtain ⟨t, it⟩ := p
      rw [List.nil_append, loop_cons]
      cases hp : pre fl cfg call anchor with
      | some e => rfl
      | none =>
        rw [hp] at h
        rw [due_of_settled h]
        rfl
  | cons p rest ih =>
    obtain ⟨t, it⟩ := p
    rw [loop_cons] at h
    rw [List.cons_append, loop_cons, loop_cons]
    cases hp : pre fl cfg call anchor with
    | some e => rfl
    | none =>
      cases hd : due (dl fl cfg call anchor) t with
      | some e => rfl
      | none =>
        rw [hp, hd] at h
        exact onItem_congr cfg t it (Settled later) h ih ih

theorem sleepExit_after {call T : Nat} {hist later : Hist}
    (hl : ∀ p ∈ later, exitTime (sleepExit call T hist) < p.1) :
    sleepExit call T (hist ++ later) = sleepExit call T hist := by
  induction hist with
  | nil =>
    cases later with
    | nil => rfl
    | cons p r =>
      obtain ⟨t, it⟩ := p
      have := hl (t, it) List.mem_cons_self
      exact if_pos this
  | cons p rest ih =>
    obtain ⟨t, it⟩ := p
    simp only [List.cons_append, sleepExit] at hl ⊢
    by_cases hlt : call + T < t
    · rw [if_pos hlt, if_pos hlt]
    · simp only [hlt, if_false] at hl ⊢
      cases it with
      | cancel => rfl
      | state v => exact ih hl
      | event d => exact ih hl

end Legacy

namespace New

theorem loop_after {cfg : Cfg} {call : Nat} {hist later : Hist}
    (h : Settled later (loop fl cfg call hist)) :
    loop fl cfg call (hist ++ later) = loop fl cfg call hist := by
  induction hist with
  | nil =>
    cases later with
    | nil => rfl
    | cons p r =>
      rw [loop_nil] at h ⊢
      obtain ⟨t, it⟩ := p
      rw [List.nil_append, loop_cons, due_of_settled h]
      rfl
  | cons p rest ih =>
    obtain ⟨t, it⟩ := p
    rw [loop_cons] at h
    rw [List.cons_append, loop_cons, loop_cons]
    cases hd : due (dl fl cfg call) t with
    | some e => rfl
    | none =>
      rw [hd] at h
      exact onItem_congr cfg t it (Settled later) h ih ih

end New

end PsModel.C15
