import PsModel.Lemmas.C19
import PsModel.Spec.C19Kernel
/-! The handshake against its flat reference and the greeting grammar, command frames, wire messages, `is_complete`, the
branches of the shell handler, the session invariant, one message on one channel. -/
namespace PsModel.C19
open PsModel.Gen

theorem lookup_mem (l : List (Bytes × Bytes)) (k v : Bytes) (h : l.lookup k = some v) : (k, v) ∈ l := by
  obtain ⟨l₁, l₂, rfl, _⟩ := List.lookup_eq_some_iff.1 h
  exact List.mem_append_right _ List.mem_cons_self

theorem hsLoop_flat (v : Bool) : ∀ (steps : List (Bytes × Nat)) (i : Nat) (out : Bytes) (cs : List Bytes),
    ((hsLoop v i steps out cs).written, (hsLoop v i steps out cs).status, (hsLoop v i steps out cs).rest.flatten)
      = hsFlat v i steps out cs.flatten := by
  intro steps
  induction steps with
  | nil => intro i out cs; rfl
  | cons st steps ih =>
    intro i out cs
    obtain ⟨w, n⟩ := st
    rw [hsLoop, hsFlat]
    refine read_flat (fun r : HsResult => (r.written, r.status, r.rest.flatten)) n cs rfl fun d cs' => ?_
    split
    · rfl
    · exact ih (i + 1) (out ++ w) cs'

theorem hsFlat_ok (v : Bool) : ∀ (steps : List (Bytes × Nat)) (i : Nat) (out bs : Bytes),
    (hsFlat v i steps out bs).2.1 = .ok →
      (steps.map Prod.snd).sum ≤ bs.length ∧
      hsFlat v i steps out bs = (out ++ (steps.map Prod.fst).flatten, .ok, bs.drop (steps.map Prod.snd).sum) := by
  intro steps
  induction steps with
  | nil => intro i out bs _; exact ⟨Nat.zero_le _, congrArg (·, HsStatus.ok, bs) (List.append_nil out).symm⟩
  | cons st steps ih =>
    intro i out bs
    obtain ⟨w, n⟩ := st
    rw [hsFlat, takeN]
    by_cases hn : n ≤ bs.length
    · rw [if_pos hn]
      simp only
      split
      · intro h; cases h
      · intro h
        obtain ⟨h1, h2⟩ := ih _ _ _ h
        rw [List.length_drop] at h1
        refine ⟨by simp only [List.map_cons, List.sum_cons]; omega, ?_⟩
        rw [h2, List.drop_drop, List.append_assoc]
        rfl
    · rw [if_neg hn]; intro h; cases h

theorem hsFlat_cons_ok (v : Bool) (i n : Nat) (w : Bytes) (steps : List (Bytes × Nat)) (out d bs : Bytes) (h : d.length = n) :
    (hsFlat v i ((w, n) :: steps) out (d ++ bs)).2.1 = .ok ↔
      (v = false ∨ stageOk i d = true) ∧ (hsFlat v (i + 1) steps (out ++ w) bs).2.1 = .ok := by
  rw [hsFlat, takeN_append d bs n h.symm]
  dsimp only
  cases v
  · exact ⟨fun h => ⟨Or.inl rfl, h⟩, And.right⟩
  · cases stageOk i d
    · exact ⟨nofun, fun h => h.1.elim nofun nofun⟩
    · exact ⟨fun h => ⟨Or.inr rfl, h⟩, And.right⟩

theorem handshake_flat (v : Bool) (ty : Bytes) (cs : List Bytes) :
    ((handshake v ty cs).status, (handshake v ty cs).rest.flatten) = (hsFlat v 0 hsSteps [] cs.flatten).2 ∧
    ((handshake v ty cs).status = .ok →
      (handshake v ty cs).written = (hsFlat v 0 hsSteps [] cs.flatten).1 ++ readyCmd ty) := by
  rw [← hsLoop_flat v hsSteps 0 [] cs, handshake]
  split
  · exact ⟨rfl, fun _ => rfl⟩
  · next hne => exact ⟨rfl, fun e => absurd e hne⟩

theorem handshake_ok (v : Bool) (ty : Bytes) (cs : List Bytes) (h : (handshake v ty cs).status = .ok) :
    HS_READS.sum ≤ cs.flatten.length ∧ (handshake v ty cs).written = HS_WRITES.flatten ++ readyCmd ty ∧
      (handshake v ty cs).rest.flatten = cs.flatten.drop HS_READS.sum := by
  obtain ⟨h1, h2⟩ := handshake_flat v ty cs
  obtain ⟨h3, h4⟩ := hsFlat_ok v hsSteps 0 [] cs.flatten ((congrArg Prod.fst h1).symm.trans h)
  rw [h4] at h1 h2
  exact ⟨h3, h2 h, congrArg Prod.snd h1⟩

theorem handshake_accepts_iff (v : Bool) (ty d0 d1 d2 rest : Bytes) (chunks : List Bytes)
    (h0 : d0.length = 10) (h1 : d1.length = 1) (h2 : d2.length = 53) (hc : chunks.flatten = d0 ++ d1 ++ d2 ++ rest) :
    (handshake v ty chunks).status = .ok ↔
      v = false ∨ (stageOk 0 d0 = true ∧ stageOk 1 d1 = true ∧ stageOk 2 d2 = true) := by
  obtain ⟨w0, w1, w2, hs⟩ : ∃ w0 w1 w2, hsSteps = [(w0, 10), (w1, 1), (w2, 53)] := ⟨_, _, _, rfl⟩
  have hst : (handshake v ty chunks).status = _ := congrArg Prod.fst (handshake_flat v ty chunks).1
  rw [hst, hc, hs, List.append_assoc, List.append_assoc, hsFlat_cons_ok v _ _ _ _ _ d0 _ h0,
    hsFlat_cons_ok v _ _ _ _ _ d1 _ h1, hsFlat_cons_ok v _ _ _ _ _ d2 _ h2, or_and_left, or_and_left]
  exact and_congr_right fun _ => and_congr_right fun _ => and_iff_left rfl

theorem split64 (g : Bytes) (h : g.length = 64) :
    ∃ d0 d1 d2, g = d0 ++ d1 ++ d2 ∧ d0.length = 10 ∧ d1.length = 1 ∧ d2.length = 53 :=
  ⟨g.take 10, (g.drop 10).take 1, (g.drop 10).drop 1,
    by rw [List.append_assoc, List.take_append_drop, List.take_append_drop],
    by rw [List.length_take, h]; rfl, by rw [List.length_take, List.length_drop, h]; rfl,
    by rw [List.length_drop, List.length_drop, h]⟩

theorem stage0_iff (d : Bytes) (h : d.length = 10) :
    stageOk 0 d = true ↔ ∃ pad, d = [255] ++ pad ++ [127] ∧ pad.length = 8 := by
  constructor
  · intro s
    simp only [stageOk, Bool.and_eq_true, beq_iff_eq] at s
    obtain ⟨ys, rfl⟩ := List.getLast?_eq_some_iff.1 s.2
    match ys, h, s.1 with
    | y :: pad, h, s1 =>
      cases s1
      exact ⟨pad, rfl, by simpa using h⟩
  · rintro ⟨pad, rfl, _⟩
    simp [stageOk, List.getLast?_cons, List.getLast?_append]

theorem stage1_iff (d : Bytes) (h : d.length = 1) : stageOk 1 d = true ↔ ∃ major, d = [major] ∧ 3 ≤ major := by
  match d, h with
  | [m], _ => simp [stageOk]

theorem stage2_iff (d : Bytes) (h : d.length = 53) :
    stageOk 2 d = true ↔ ∃ minor tail, d = [minor] ++ mechNull ++ tail ∧ tail.length = 32 := by
  match d, h with
  | minor :: r, h =>
    simp only [stageOk, List.drop_succ_cons, List.drop_zero, beq_iff_eq]
    constructor
    · intro s
      refine ⟨minor, r.drop 20, ?_, by simp only [List.length_cons] at h; rw [List.length_drop]; omega⟩
      rw [← s, List.append_assoc, List.take_append_drop]; rfl
    · rintro ⟨_, tail, e, _⟩
      cases e
      exact List.take_left' rfl

theorem stages_iff_valid (d0 d1 d2 : Bytes) (h0 : d0.length = 10) (h1 : d1.length = 1) (h2 : d2.length = 53) :
    (stageOk 0 d0 = true ∧ stageOk 1 d1 = true ∧ stageOk 2 d2 = true) ↔ ValidGreeting (d0 ++ d1 ++ d2) := by
  rw [stage0_iff d0 h0, stage1_iff d1 h1, stage2_iff d2 h2]
  constructor
  · rintro ⟨⟨pad, rfl, hp⟩, ⟨major, rfl, hm⟩, ⟨minor, tail, rfl, ht⟩⟩
    exact ⟨pad, major, minor, tail, rfl, hp, hm, ht⟩
  · rintro ⟨pad, major, minor, tail, hg, hp, hm, ht⟩
    obtain ⟨e01, e2⟩ := List.append_inj hg (by simp [h0, h1, hp])
    obtain ⟨e0, e1⟩ := List.append_inj e01 (by simp [h0, hp])
    exact ⟨⟨pad, e0, hp⟩, ⟨major, e1, hm⟩, ⟨minor, tail, e2, ht⟩⟩

theorem encodeCmd_short (name : Bytes) (params : List (Bytes × Bytes)) (h : (cmdBody name params).length ≤ CMD_SHORT_MAX) :
    encodeCmd name params = [CMD_FLAG_SHORT, (cmdBody name params).length] ++ cmdBody name params := if_pos h

theorem recvFlat_cmd (fuel : Nat) (parts : List Bytes) (b rest : Bytes) :
    recvFlat (fuel + 1) parts ([CMD_FLAG_SHORT, b.length] ++ b ++ rest) =
      if cmdOk b then recvFlat fuel parts rest else .error .badCommand :=
  recvFlat_header fuel parts CMD_FLAG_SHORT [b.length] b rest rfl (unbe_single _)

theorem recvMultipart_after_cmd (b : Bytes) (hb : cmdOk b = true) (ps : List Bytes) (rest : Bytes) (chunks : List Bytes)
    (hne : ps ≠ []) (hlen : ∀ p ∈ ps, p.length < 2 ^ 64)
    (hc : chunks.flatten = [CMD_FLAG_SHORT, b.length] ++ b ++ encodeMultipart ps ++ rest) :
    flatRes (recvMultipart chunks) = .ok (ps, rest) := by
  rw [recvMultipart_flat, hc, List.append_assoc, recvFlat_cmd, hb, if_pos rfl]
  refine recvFlat_multipart ps _ [] rest hne hlen ?_
  have := length_le_encodeMultipart ps
  simp only [List.length_append]
  omega

theorem splitDelim_serial (ids after : List Bytes) (h : DELIM ∉ ids) :
    splitDelim (ids ++ DELIM :: after) = some (ids, after) := by
  induction ids with
  | nil => simp [splitDelim]
  | cons f fs ih =>
    have hf : f ≠ DELIM := fun e => h (by simp [e])
    have hfs : DELIM ∉ fs := fun e => h (by simp [e])
    simp [splitDelim, hf, ih hfs]

theorem splitDelim_inv : ∀ (wire ids after : List Bytes), splitDelim wire = some (ids, after) →
    wire = ids ++ DELIM :: after ∧ DELIM ∉ ids
  | f :: fs, ids, after, h => by
    rw [splitDelim] at h
    split at h
    · next hf => cases h; exact ⟨congrArg (· :: fs) hf, List.not_mem_nil⟩
    · next hf =>
      split at h
      · next hs =>
        obtain ⟨e, hn⟩ := splitDelim_inv fs _ _ hs
        cases h
        exact ⟨congrArg (f :: ·) e, fun hm => (List.mem_cons.1 hm).elim (fun e => hf e.symm) hn⟩
      · cases h

theorem splitDelim_none (wire : List Bytes) (h : DELIM ∉ wire) : splitDelim wire = none := by
  cases hs : splitDelim wire with
  | none => rfl
  | some p => exact absurd (by rw [(splitDelim_inv wire p.1 p.2 hs).1]; exact List.mem_append_right _ List.mem_cons_self) h

theorem decodeFrames_eq_none_iff (jsonOk : Bytes → Bool) : ∀ (n : Nat) (frames : List Bytes),
    decodeFrames jsonOk n frames = none ↔ n ≤ frames.length ∧ ∀ f ∈ frames.take n, jsonOk f = true
  | 0, _ => by simp [decodeFrames]
  | _ + 1, [] => by simp [decodeFrames]
  | n + 1, f :: fs => by
    rw [decodeFrames]
    cases hj : jsonOk f <;> simp [hj, decodeFrames_eq_none_iff jsonOk n fs]

theorem deserialize_ok_iff (sign : List Bytes → Bytes) (jsonOk : Bytes → Bool) (wire ids frames : List Bytes) :
    deserialize sign jsonOk wire = .ok (ids, frames) ↔
      wire = serialize sign ids frames ∧ DELIM ∉ ids ∧ 4 ≤ frames.length ∧ ∀ f ∈ frames.take 4, jsonOk f = true := by
  constructor
  · intro h
    unfold deserialize at h
    split at h
    · cases h
    · cases h
    · next hs =>
      obtain ⟨hw, hn⟩ := splitDelim_inv wire _ _ hs
      split at h
      · cases h
      · next hd =>
        split at h
        · next hsig =>
          cases h
          exact ⟨by rw [hw, ← hsig]; exact (List.append_assoc ids [DELIM, sign frames] frames).symm, hn,
            (decodeFrames_eq_none_iff jsonOk 4 _).1 hd⟩
        · cases h
  · rintro ⟨rfl, hid, hlen, hj⟩
    rw [deserialize, serialize, List.append_assoc, List.cons_append, splitDelim_serial ids _ hid]
    simp [(decodeFrames_eq_none_iff jsonOk 4 frames).2 ⟨hlen, hj⟩]

theorem isComplete_ok (c : Bool) (code : List Nat) :
    isComplete c code .ok = if lastIndent code = 0 then .complete else .incomplete (lastIndent code) := rfl

theorem isComplete_not_eof (code : List Nat) (sy : Bool) (ln : Option (Option Nat)) :
    isComplete true code (.exc sy false ln) = .invalid := rfl

/-- An end-of-input message is answered "incomplete" (indent raised by 4 after a line that ends in a colon); the handler
itself raises only when the line number is `None` or beyond the source. -/
theorem isComplete_eof (code : List Nat) (sy : Bool) (ln : Option (Option Nat)) (h1 : ln ≠ some none)
    (h2 : ∀ n, ln = some (some n) → n ≤ (splitNl code).length) :
    ∃ n, isComplete true code (.exc sy true ln) = .incomplete n ∧ lastIndent code ≤ n := by
  have bump (b : Bool) (k : Nat) :
      ∃ n, (if b then IsComplete.incomplete (k + 4) else .incomplete k) = .incomplete n ∧ k ≤ n := by
    cases b
    · exact ⟨_, rfl, Nat.le_refl _⟩
    · exact ⟨_, rfl, Nat.le_add_right _ _⟩
  match ln, h1, h2 with
  | none, _, _ => exact ⟨_, rfl, Nat.le_refl _⟩
  | some none, h1, _ => exact absurd rfl h1
  | some (some 0), _, _ => exact bump _ _
  | some (some (n + 1)), _, h2 =>
    have e : isComplete true code (.exc sy true (some (some (n + 1)))) =
        match (splitNl code)[n]? with
        | none => .crash
        | some line => if colonEnd line then .incomplete (lastIndent code + 4) else .incomplete (lastIndent code) := rfl
    rw [e, List.getElem?_eq_getElem (h2 (n + 1) rfl)]
    exact bump _ _

/-- A list of messages as `shell_handler` builds them for a request with identities `ids` and decoded frames `i`:
broadcasts through `pub`, replies on the shell socket through `rep`, whose types are collected in the index. -/
inductive Emits (ids : List Bytes) (i : Info) : List Bytes → List KOut → Prop
  | nil : Emits ids i [] []
  | pub {ts l ty sub c p} : Emits ids i ts l → Emits ids i ts (pub i ty sub c p :: l)
  | rep {ts l ty sub c p} : Emits ids i ts l → Emits ids i (ty :: ts) (rep .shell ids i ty sub c p :: l)

theorem Emits.mem {ids : List Bytes} {i : Info} {ts : List Bytes} {l : List KOut} (h : Emits ids i ts l) :
    ∀ o ∈ l, o.parent = i.header ∧ (o.chan = .shell ∨ (o.chan = .iopub ∧ o.idents = [])) := by
  induction h with
  | nil => intro o ho; cases ho
  | pub _ ih => exact List.forall_mem_cons.2 ⟨⟨rfl, Or.inr ⟨rfl, rfl⟩⟩, ih⟩
  | rep _ ih => exact List.forall_mem_cons.2 ⟨⟨rfl, Or.inl rfl⟩, ih⟩

theorem Emits.replies {ids : List Bytes} {i : Info} {ts : List Bytes} {l : List KOut} (h : Emits ids i ts l) :
    (l.filter (fun o => o.chan = .shell)).map (fun o => (o.mtype, o.idents)) = ts.map (·, ids) := by
  induction h with
  | nil => rfl
  | pub _ ih => exact ih
  | rep _ ih => exact congrArg (_ :: ·) ih

section
variable (c : Bool) (run : Nat → CellResult) (s : KState) (ids : List Bytes) (i : Info)

theorem shellHandle_exec (h : i.mtype = N_execute_request) :
    shellHandle c run s ids i =
      ⟨{ s with parentHeader := some i.header, executed := s.executed ++ [i.cell],
                count := if i.storeHistory then s.count + 1 else s.count },
        pub i N_status .busy :: pub i N_execute_input .none (some s.count) ::
          (match run i.cell with
           | .error e => [rep .shell ids i N_execute_reply .error (some s.count) (some e), pub i N_error .none none (some e)]
           | .value v => [pub i N_execute_result .none (some s.count) (some v), rep .shell ids i N_execute_reply .ok (some s.count)]
           | .none => [rep .shell ids i N_execute_reply .ok (some s.count)]) ++ [pub i N_status .idle],
        false⟩ := by
  simp only [shellHandle, h, if_true]
  cases run i.cell <;> rfl

theorem shellHandle_isc (h : i.mtype = N_is_complete_request) :
    shellHandle c run s ids i =
      (match isComplete c i.code i.parse with
       | .crash => ⟨{ s with parentHeader := some i.header }, [pub i N_status .busy], true⟩
       | r => ⟨{ s with parentHeader := some i.header },
           [pub i N_status .busy, rep .shell ids i N_is_complete_reply (isCompleteSub r), pub i N_status .idle], false⟩) := by
  have : N_is_complete_request ≠ N_execute_request := by decide
  simp only [shellHandle, h, this, if_false, if_true]
  cases isComplete c i.code i.parse <;> rfl

theorem shellHandle_tbl (he : i.mtype ≠ N_execute_request) (hi : i.mtype ≠ N_is_complete_request) :
    shellHandle c run s ids i =
      ⟨{ s with parentHeader := some i.header },
        match SHELL_REPLY_TABLE.lookup i.mtype with
        | some ty => [pub i N_status .busy, rep .shell ids i ty, pub i N_status .idle]
        | none => [pub i N_status .busy, pub i N_status .idle],
        false⟩ := by
  simp only [shellHandle, he, hi, if_false]
  cases SHELL_REPLY_TABLE.lookup i.mtype <;> rfl

theorem shellHandle_count :
    (shellHandle c run s ids i).state.count =
      s.count + if (decide (i.mtype = N_execute_request) && i.storeHistory) = true then 1 else 0 := by
  by_cases he : i.mtype = N_execute_request
  · rw [shellHandle_exec _ _ _ _ _ he, decide_eq_true he]
    cases i.storeHistory <;> rfl
  · rw [decide_eq_false he]
    by_cases hi : i.mtype = N_is_complete_request
    · rw [shellHandle_isc _ _ _ _ _ hi]
      cases isComplete c i.code i.parse <;> rfl
    · rw [shellHandle_tbl _ _ _ _ _ he hi]
      rfl

theorem shellHandle_emits (hc : (shellHandle c run s ids i).crashed = false) :
    Emits ids i (SHELL_REPLY_TABLE.lookup i.mtype).toList (shellHandle c run s ids i).outs ∧
      (shellHandle c run s ids i).outs.head? = some (pub i N_status .busy) ∧
      (shellHandle c run s ids i).outs.getLast? = some (pub i N_status .idle) := by
  by_cases he : i.mtype = N_execute_request
  · rw [shellHandle_exec _ _ _ _ _ he, he]
    cases run i.cell
    · exact ⟨.pub (.pub (.pub (.rep (.pub .nil)))), rfl, rfl⟩
    · exact ⟨.pub (.pub (.rep (.pub .nil))), rfl, rfl⟩
    · exact ⟨.pub (.pub (.rep (.pub (.pub .nil)))), rfl, rfl⟩
  · by_cases hi : i.mtype = N_is_complete_request
    · rw [shellHandle_isc _ _ _ _ _ hi] at hc ⊢
      rw [hi]
      revert hc
      cases isComplete c i.code i.parse
      case crash => exact fun hc => Bool.noConfusion hc
      all_goals exact fun _ => ⟨.pub (.rep (.pub .nil)), rfl, rfl⟩
    · rw [shellHandle_tbl _ _ _ _ _ he hi]
      cases SHELL_REPLY_TABLE.lookup i.mtype
      · exact ⟨.pub (.pub .nil), rfl, rfl⟩
      · exact ⟨.pub (.rep (.pub .nil)), rfl, rfl⟩

end

theorem sessionShutdown_down (s : Sess) (h : s.up = false) : sessionShutdown s = s := by
  rw [sessionShutdown, h]; rfl

theorem sessionShutdown_k (s : Sess) : (sessionShutdown s).k = s.k := by
  unfold sessionShutdown; split <;> rfl

/-- housekeeping moves its own counters only, and then possibly ends the session -/
theorem hkStep_cases (s : Sess) (m : HkMsg) :
    ∃ t : Sess, (hkStep s m = t ∨ hkStep s m = { sessionShutdown t with hkAlive := false }) ∧
      t.k = s.k ∧ t.up = s.up ∧ t.shutdowns = s.shutdowns ∧ t.hkAlive = s.hkAlive := by
  unfold hkStep
  split
  · exact ⟨_, Or.inl rfl, rfl, rfl, rfl, rfl⟩
  · cases m with
    | stdout | handshake | register => exact ⟨_, Or.inl rfl, rfl, rfl, rfl, rfl⟩
    | unregister =>
      dsimp only
      split
      · exact ⟨_, Or.inr rfl, rfl, rfl, rfl, rfl⟩
      · exact ⟨_, Or.inl rfl, rfl, rfl, rfl, rfl⟩
    | shutdown => exact ⟨_, Or.inr rfl, rfl, rfl, rfl, rfl⟩

theorem hkStep_k (s : Sess) (m : HkMsg) : (hkStep s m).k = s.k := by
  obtain ⟨t, h | h, hk, _⟩ := hkStep_cases s m <;> rw [h]
  · exact hk
  · exact (sessionShutdown_k t).trans hk

def SessInv (s : Sess) : Prop := (s.hkAlive = false → s.up = false) ∧ s.shutdowns = (if s.up then 0 else 1)

theorem sessionShutdown_inv (s : Sess) (h : SessInv s) : SessInv (sessionShutdown s) ∧ (sessionShutdown s).up = false := by
  unfold sessionShutdown
  cases hu : s.up
  · exact ⟨h, hu⟩
  · refine ⟨⟨fun _ => rfl, ?_⟩, rfl⟩
    show s.shutdowns + 1 = 1
    rw [h.2, hu]
    rfl

theorem hkStep_inv (s : Sess) (m : HkMsg) (h : SessInv s) : SessInv (hkStep s m) := by
  obtain ⟨t, ht, _, hu, hs, ha⟩ := hkStep_cases s m
  have i : SessInv t := by unfold SessInv; rw [hu, hs, ha]; exact h
  rcases ht with ht | ht <;> rw [ht]
  · exact i
  · obtain ⟨⟨_, i2⟩, i3⟩ := sessionShutdown_inv t i
    exact ⟨fun _ => i3, i2⟩

theorem hkStep_shutdown_down (s : Sess) (h : SessInv s) : (hkStep s .shutdown).up = false := by
  unfold hkStep
  by_cases ha : s.hkAlive = true
  · rw [if_neg (by simp [ha])]
    exact (sessionShutdown_inv _ h).2
  · rw [if_pos (by simpa using ha)]
    exact h.1 (by simpa using ha)

theorem hkStep_down_stays (s : Sess) (m : HkMsg) (h : s.up = false) : (hkStep s m).up = false := by
  obtain ⟨t, ht | ht, _, hu, _⟩ := hkStep_cases s m <;> rw [ht]
  · exact hu.trans h
  · show (sessionShutdown t).up = false
    rw [sessionShutdown_down t (hu.trans h)]
    exact hu.trans h

theorem sessEv_inv (s : Sess) (e : SessEv) (h : SessInv s) : SessInv (sessEv s e) := by
  cases e with
  | hk m => exact hkStep_inv s m h
  | external => exact (sessionShutdown_inv s h).1

theorem sessEv_down_stays (s : Sess) (e : SessEv) (h : s.up = false) : (sessEv s e).up = false := by
  cases e with
  | hk m => exact hkStep_down_stays s m h
  | external => exact (congrArg Sess.up (sessionShutdown_down s h)).trans h

section
variable (E : Env) (s : Sess) (ch : Chan) (w : List Bytes)

theorem chanStep_down (hu : s.up = false) : chanStep E s ch w = (s, []) := by
  simp [chanStep, hu]

theorem chanStep_shell (hu : s.up = true) :
    chanStep E s .shell w =
      (match deserialize E.sign E.jsonOk w with
       | .error _ => (hkStep s .shutdown, [])
       | .ok (ids, frames) =>
         (if (shellHandle E.catchAll E.run s.k ids (E.info frames)).crashed
            then hkStep { s with k := (shellHandle E.catchAll E.run s.k ids (E.info frames)).state } .shutdown
            else { s with k := (shellHandle E.catchAll E.run s.k ids (E.info frames)).state },
          (shellHandle E.catchAll E.run s.k ids (E.info frames)).outs)) := by
  unfold chanStep
  rw [if_neg (by simp [hu])]
  simp only
  cases deserialize E.sign E.jsonOk w <;> rfl

theorem chanStep_control (hu : s.up = true) :
    chanStep E s .control w =
      (match deserialize E.sign E.jsonOk w with
       | .error _ => (hkStep s .shutdown, [])
       | .ok (ids, frames) =>
         (if (controlHandle ids (E.info frames)).2 then hkStep s .shutdown else s, (controlHandle ids (E.info frames)).1)) := by
  unfold chanStep
  rw [if_neg (by simp [hu])]
  simp only
  cases deserialize E.sign E.jsonOk w <;> rfl

theorem chanStep_other (hc : ch = .iopub ∨ ch = .stdin ∨ ch = .hb) :
    chanStep E s ch w = (s, []) := by
  unfold chanStep
  split
  · rfl
  · rcases hc with rfl | rfl | rfl <;> rfl

theorem chanStep_sess :
    ∃ k', ((chanStep E s ch w).1 = { s with k := k' } ∨ (chanStep E s ch w).1 = hkStep { s with k := k' } .shutdown) ∧
      k'.count = s.k.count +
        (if countsExecute E ⟨s, ch, w, (chanStep E s ch w).2, (chanStep E s ch w).1⟩ then 1 else 0) := by
  by_cases hu : s.up = true
  · cases ch with
    | shell =>
      rw [chanStep_shell E s w hu]
      cases hd : deserialize E.sign E.jsonOk w with
      | error e => exact ⟨s.k, Or.inr rfl, by simp [countsExecute, hd]⟩
      | ok p =>
        refine ⟨(shellHandle E.catchAll E.run s.k p.1 (E.info p.2)).state, ?_, ?_⟩
        · dsimp only
          split
          · exact Or.inr rfl
          · exact Or.inl rfl
        · simp only [countsExecute, hu, hd, decide_true, Bool.true_and]
          exact shellHandle_count ..
    | control =>
      rw [chanStep_control E s w hu]
      refine ⟨s.k, ?_, by simp [countsExecute]⟩
      cases deserialize E.sign E.jsonOk w with
      | error e => exact Or.inr rfl
      | ok p =>
        dsimp only
        split
        · exact Or.inr rfl
        · exact Or.inl rfl
    | _ => rw [chanStep_other E s _ w (by simp)]; exact ⟨s.k, Or.inl rfl, by simp [countsExecute]⟩
  · have hu' : s.up = false := Bool.eq_false_iff.2 hu
    rw [chanStep_down E s ch w hu']
    exact ⟨s.k, Or.inl rfl, by simp [countsExecute, hu']⟩

theorem chanStep_inv (h : SessInv s) : SessInv (chanStep E s ch w).1 := by
  obtain ⟨k', hk | hk, _⟩ := chanStep_sess E s ch w <;> rw [hk]
  · exact ⟨h.1, h.2⟩
  · exact hkStep_inv _ .shutdown ⟨h.1, h.2⟩

theorem chanStep_count :
    (chanStep E s ch w).1.k.count = s.k.count +
      (if countsExecute E ⟨s, ch, w, (chanStep E s ch w).2, (chanStep E s ch w).1⟩ then 1 else 0) := by
  obtain ⟨k', hk | hk, hc⟩ := chanStep_sess E s ch w
  · rw [← hc, hk]
  · rw [← hc, hk, hkStep_k]

end

end PsModel.C19
