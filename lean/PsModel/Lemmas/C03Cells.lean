import PsModel.Spec.C03Cells
/-! the abstraction of a Python frame as a pyscript symbol table, and the static agreement lemmas -/
namespace PsModel.C03.Cells

/-- how pyscript's table shows the variable `x` of a Python frame: a cell, a plain value, or nothing -/
def view (f : Py.Frame) (x : String) : Option Entry :=
  match f.env x with
  | some (a, y) => some (.cell a y)
  | none => (f.fast x).map .raw

/-- the pyscript frame that stands for a Python frame: entries only for the names the function mentions (`var_names`) and
does not declare global -/
def absF (f : Py.Frame) : PS.Frame :=
  { tab := fun x => if (PS.names f.fd).contains x && !f.fd.globals.contains x then view f x else none,
    globalNames := f.fd.globals, localNames := PS.localNames f.fd }

theorem view_cell {f : Py.Frame} {x : String} {a : Nat} {y : String} (he : f.env x = some (a, y)) :
    view f x = some (.cell a y) := by rw [view, he]

theorem view_fast {f : Py.Frame} {x : String} (he : f.env x = none) : view f x = (f.fast x).map .raw := by rw [view, he]

theorem absF_tab (f : Py.Frame) {x : String} (hx : x ∈ PS.names f.fd) (hg : f.fd.globals.contains x = false) :
    (absF f).tab x = view f x := by
  show (if (PS.names f.fd).contains x && !f.fd.globals.contains x then view f x else none) = view f x
  rw [hg, List.contains_iff_mem.mpr hx]; rfl

theorem absF_setFast (f : Py.Frame) {x : String} (w : Option Val) (hx : x ∈ PS.names f.fd)
    (hg : f.fd.globals.contains x = false) (he : f.env x = none) :
    absF { f with fast := upd f.fast x w } = { absF f with tab := upd (absF f).tab x (w.map .raw) } := by
  show PS.Frame.mk _ _ _ = PS.Frame.mk _ _ _
  congr 1
  funext z
  by_cases hz : z = x
  · subst hz
    show (absF { f with fast := upd f.fast z w }).tab z = _
    rw [absF_tab { f with fast := upd f.fast z w } hx hg, view_fast (f := { f with fast := upd f.fast z w }) he]
    simp only [upd, if_true]
  · simp only [upd, hz, if_false, absF, view]

mutual
theorem localsS_eq : ∀ s : Stmt, PS.localsS s = Py.boundS s
  | .assign _ _ => rfl
  | .aug _ _ => rfl
  | .expr _ => rfl
  | .del _ => rfl
  | .ret _ => rfl
  | .declG _ => rfl
  | .declN _ => rfl
  | .defn _ _ _ => rfl
  | .handler x e body => by rw [PS.localsS, Py.boundS, localsL_eq body]
  | .tryNE b h => by rw [PS.localsS, Py.boundS, localsL_eq b, localsL_eq h]
  | .ifT e body => by rw [PS.localsS, Py.boundS, localsL_eq body]
theorem localsL_eq : ∀ ss : List Stmt, PS.localsL ss = Py.boundL ss
  | [] => rfl
  | s :: ss => by rw [PS.localsL, Py.boundL, localsS_eq s, localsL_eq ss]
end

mutual
theorem hasInnerS_eq : ∀ s : Stmt, PS.hasInnerS s = Py.hasDefS s
  | .assign _ _ => rfl
  | .aug _ _ => rfl
  | .expr _ => rfl
  | .del _ => rfl
  | .ret _ => rfl
  | .declG _ => rfl
  | .declN _ => rfl
  | .defn _ _ _ => rfl
  | .handler x e body => by rw [PS.hasInnerS, Py.hasDefS, hasInnerL_eq body]
  | .tryNE b h => by rw [PS.hasInnerS, Py.hasDefS, hasInnerL_eq b, hasInnerL_eq h]
  | .ifT e body => by rw [PS.hasInnerS, Py.hasDefS, hasInnerL_eq body]
theorem hasInnerL_eq : ∀ ss : List Stmt, PS.hasInnerL ss = Py.hasDefL ss
  | [] => rfl
  | s :: ss => by rw [PS.hasInnerL, Py.hasDefL, hasInnerS_eq s, hasInnerL_eq ss]
end

theorem localNames_eq (fd : FnDef) : PS.localNames fd = Py.bound fd := by
  simp [PS.localNames, Py.bound, localsL_eq]

end PsModel.C03.Cells
