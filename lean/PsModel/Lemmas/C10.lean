import PsModel.Model.C10
import PsModel.Spec.C10
/-! a loop-invariant principle for `List.foldl`; look-ups by context name; `glob_read_files` for any `load_paths` table and for the extracted one -/
namespace PsModel.C10
open PsModel.C10.Spec

/-- an invariant of a loop over `l` that also speaks of the elements visited so far -/
theorem foldl_seen {α σ : Type} {step : σ → α → σ} {I : List α → σ → Prop} {l : List α}
    (hstep : ∀ seen s, I seen s → ∀ a ∈ l, I (seen ++ [a]) (step s a)) {s : σ} (h0 : I [] s) :
    I l (l.foldl step s) := by
  suffices H : ∀ (t seen : List α) (s : σ), (∀ a ∈ t, a ∈ l) → I seen s → I (seen ++ t) (t.foldl step s) from
    H l [] s (fun _ h => h) h0
  intro t
  induction t with
  | nil => intro seen s _ h; rwa [List.append_nil]
  | cons a t ih =>
    intro seen s hsub h
    have := ih (seen ++ [a]) (step s a) (fun b hb => hsub b (List.mem_cons_of_mem _ hb))
      (hstep seen s h a (hsub a List.mem_cons_self))
    rwa [List.append_assoc] at this

theorem find?_key_of_nodup {α κ : Type} [BEq κ] [LawfulBEq κ] (key : α → κ) {l : List α} (hnd : (l.map key).Nodup)
    {a : α} (ha : a ∈ l) : l.find? (fun x => key x == key a) = some a := by
  induction l with
  | nil => cases ha
  | cons x xs ih =>
    rw [List.map_cons, List.nodup_cons] at hnd
    rcases List.mem_cons.mp ha with rfl | ha'
    · exact List.find?_cons_of_pos (by simp)
    · have hx : (key x == key a) = false :=
        Bool.eq_false_iff.mpr fun h => hnd.1 (eq_of_beq h ▸ List.mem_map_of_mem ha')
      rw [List.find?_cons, hx]
      exact ih hnd.2 ha'

theorem findCtx_some {cs : List Ctx} {n : Name} {c : Ctx} (h : findCtx cs n = some c) : c ∈ cs ∧ c.name = n := by
  have := List.find?_some h
  exact ⟨List.mem_of_find?_eq_some h, eq_of_beq this⟩

theorem findCtx_none {cs : List Ctx} {n : Name} : findCtx cs n = none ↔ ∀ c ∈ cs, c.name ≠ n := by
  simp only [findCtx, List.find?_eq_none, beq_iff_eq, ne_eq]

theorem findCtx_of_nodup {loaded : List Ctx} (hln : (loaded.map (·.name)).Nodup) {c : Ctx} (hc : c ∈ loaded) :
    findCtx loaded c.name = some c := find?_key_of_nodup Ctx.name hln hc

theorem findEntry_some {es : List Entry} {n : Name} {e : Entry} (h : findEntry es n = some e) : e ∈ es ∧ e.name = n := by
  have := List.find?_some h
  exact ⟨List.mem_of_find?_eq_some h, eq_of_beq this⟩

theorem findEntry_none {es : List Entry} {n : Name} : findEntry es n = none ↔ ∀ e ∈ es, e.name ≠ n := by
  simp only [findEntry, List.find?_eq_none, beq_iff_eq, ne_eq]

theorem hasName_iff {es : List Entry} {n : Name} : hasName es n = true ↔ ∃ e ∈ es, e.name = n := by
  simp only [hasName, List.any_eq_true, beq_iff_eq]

theorem hasName_false_iff {es : List Entry} {n : Name} : hasName es n = false ↔ ∀ e ∈ es, e.name ≠ n := by
  simp only [hasName, List.any_eq_false, beq_iff_eq, ne_eq]

theorem hasName_append (a b : List Entry) (n : Name) : hasName (a ++ b) n = (hasName a n || hasName b n) :=
  List.any_append

/-- names in the table are pairwise distinct (it is a `dict`) -/
def NamesNodup (es : List Entry) : Prop := (es.map (·.name)).Nodup

theorem findEntry_of_nodup {es : List Entry} (hnd : NamesNodup es) {e : Entry} (he : e ∈ es) :
    findEntry es e.name = some e := find?_key_of_nodup Entry.name hnd he

/-- the app configuration a row attaches to a path; `none`: the row asks for a configured app and there is none -/
def rowCfg (r : Row) (apps : AppsCfg) (p : Path) : Option (Option Nat) :=
  if r.checkConfig then apps.lookup ((fqOf r.dir p).headD "") else some none

/-- what one pass of the inner loop of `glob_read_files` appends to the table, if anything -/
def newEntry (r : Row) (apps : AppsCfg) (acc : List Entry) (f : File) : Option Entry :=
  if matchRow r f.path && !isCommented f.path && !hasName acc (ctxNameOf r.dir f.path) then
    (rowCfg r apps f.path).map (mkEntry r f)
  else none

theorem addFile_eq (r : Row) (apps : AppsCfg) (acc : List Entry) (f : File) :
    addFile r apps acc f = acc ++ (newEntry r apps acc f).toList := by
  unfold addFile newEntry rowCfg
  cases matchRow r f.path with
  | false => simp
  | true =>
    cases isCommented f.path with
    | true => simp
    | false =>
      cases hasName acc (ctxNameOf r.dir f.path) with
      | true => simp
      | false =>
        cases r.checkConfig with
        | false => simp
        | true => cases apps.lookup ((fqOf r.dir f.path).headD "") <;> simp

theorem newEntry_eq_some {r : Row} {apps : AppsCfg} {acc : List Entry} {f : File} {e : Entry} :
    newEntry r apps acc f = some e ↔ matchRow r f.path = true ∧ isCommented f.path = false ∧
      hasName acc (ctxNameOf r.dir f.path) = false ∧ ∃ c, rowCfg r apps f.path = some c ∧ mkEntry r f c = e := by
  simp [newEntry, and_assoc]

theorem globRead_eq_foldl (rows : List Row) (apps : AppsCfg) (files : List File) :
    globRead rows apps files =
      (rows.flatMap fun r => files.map (Prod.mk r)).foldl (fun acc rf => acc ++ (newEntry rf.1 apps acc rf.2).toList) [] := by
  have h : ∀ r, addFile r apps = fun acc f => acc ++ (newEntry r apps acc f).toList :=
    fun r => funext fun acc => funext fun f => addFile_eq r apps acc f
  simp only [globRead, h, List.foldl_flatMap, List.foldl_map]

theorem mem_pairs {rows : List Row} {files : List File} {r : Row} {f : File} :
    (r, f) ∈ (rows.flatMap fun r => files.map (Prod.mk r)) ↔ r ∈ rows ∧ f ∈ files := by
  simp only [List.mem_flatMap, List.mem_map, Prod.mk.injEq]
  constructor
  · rintro ⟨r', hr, f', hf, rfl, rfl⟩; exact ⟨hr, hf⟩
  · rintro ⟨hr, hf⟩; exact ⟨r, hr, f, hf, rfl, rfl⟩

theorem globRead_induction {rows : List Row} {apps : AppsCfg} {files : List File} {I : List Entry → Prop} (h0 : I [])
    (step : ∀ acc, I acc → ∀ r ∈ rows, ∀ f ∈ files, ∀ e, newEntry r apps acc f = some e → I (acc ++ [e])) :
    I (globRead rows apps files) := by
  rw [globRead_eq_foldl]
  refine List.foldlRecOn _ _ h0 fun acc hacc rf hrf => ?_
  cases h : newEntry rf.1 apps acc rf.2 with
  | none => rw [Option.toList_none, List.append_nil]; exact hacc
  | some e => exact step acc hacc rf.1 (mem_pairs.mp hrf).1 rf.2 (mem_pairs.mp hrf).2 e h

def FromRow (rows : List Row) (apps : AppsCfg) (files : List File) (e : Entry) : Prop :=
  ∃ r ∈ rows, ∃ f ∈ files, matchRow r f.path = true ∧ isCommented f.path = false ∧
    ∃ c, rowCfg r apps f.path = some c ∧ mkEntry r f c = e

theorem globRead_from (rows : List Row) (apps : AppsCfg) (files : List File) {e : Entry}
    (h : e ∈ globRead rows apps files) : FromRow rows apps files e := by
  suffices H : ∀ e ∈ globRead rows apps files, FromRow rows apps files e from H e h
  refine globRead_induction (I := fun acc => ∀ e ∈ acc, FromRow rows apps files e) (List.forall_mem_nil _)
    fun acc hacc r hr f hf e' he' e he => ?_
  rcases List.mem_append.mp he with he | he
  · exact hacc e he
  · obtain ⟨hm, hc, _, hcfg⟩ := newEntry_eq_some.mp he'
    rw [List.mem_singleton.mp he]
    exact ⟨r, hr, f, hf, hm, hc, hcfg⟩

theorem globRead_nodup (rows : List Row) (apps : AppsCfg) (files : List File) : NamesNodup (globRead rows apps files) := by
  refine globRead_induction List.nodup_nil fun acc hacc r _ f _ e he => ?_
  obtain ⟨_, _, hn, c, _, rfl⟩ := newEntry_eq_some.mp he
  unfold NamesNodup at hacc ⊢
  rw [List.map_append, List.nodup_append]
  refine ⟨hacc, List.pairwise_singleton _ _, fun a ha b hb hab => ?_⟩
  obtain ⟨x, hx, rfl⟩ := List.mem_map.mp ha
  exact hasName_false_iff.mp hn x hx (hab.trans (List.mem_singleton.mp hb))

def Unforced (ents : List Entry) : Prop := ∀ e ∈ ents, e.force = false

theorem globRead_unforced (rows : List Row) (apps : AppsCfg) (files : List File) : Unforced (globRead rows apps files) := by
  intro e he
  obtain ⟨r, _, f, _, _, _, c, _, rfl⟩ := globRead_from rows apps files he
  rfl

/-- a file that a row matches and lets through is registered under the row's name for it (by itself or by an
earlier file of that name) -/
theorem globRead_complete (rows : List Row) (apps : AppsCfg) (files : List File) {r : Row} {f : File}
    (hr : r ∈ rows) (hf : f ∈ files) (hm : matchRow r f.path = true) (hc : isCommented f.path = false)
    (hg : (rowCfg r apps f.path).isSome = true) : hasName (globRead rows apps files) (ctxNameOf r.dir f.path) = true := by
  obtain ⟨s, t, hst⟩ := List.append_of_mem (mem_pairs.mpr ⟨hr, hf⟩)
  rw [globRead_eq_foldl, hst, List.foldl_append, List.foldl_cons]
  generalize s.foldl _ [] = acc
  -- entries are never removed, so it is enough to look at the table right after the pass for `(r, f)`
  refine List.foldlRecOn (motive := fun a => hasName a (ctxNameOf r.dir f.path) = true) t _ ?_ fun acc' h _ _ => by rw [hasName_append, h, Bool.true_or]
  rw [hasName_append]
  cases hn : hasName acc (ctxNameOf r.dir f.path) with
  | true => rfl
  | false =>
    obtain ⟨c, hcfg⟩ := Option.isSome_iff_exists.mp hg
    rw [newEntry_eq_some.mpr ⟨hm, hc, hn, c, hcfg, rfl⟩]
    simp [hasName, mkEntry]

theorem matchRow_top {r : Row} {p : Path} (hd : r.dir = "") (h : matchRow r p = true) : globMatch r.glob p = true := by
  simpa [matchRow, relTo, hd] using h

theorem matchRow_cons {r : Row} (hd : r.dir ≠ "") (q : Path) : matchRow r (r.dir :: q) = globMatch r.glob q := by
  unfold matchRow relTo
  rw [if_neg hd]
  simp only [if_true]

theorem matchRow_dir {r : Row} {p : Path} (hd : r.dir ≠ "") (h : matchRow r p = true) :
    ∃ q, p = r.dir :: q ∧ globMatch r.glob q = true := by
  unfold matchRow relTo at h
  rw [if_neg hd] at h
  cases p with
  | nil => cases h
  | cons x q =>
    dsimp only at h
    by_cases hx : x = r.dir
    · rw [if_pos hx] at h; exact ⟨q, by rw [hx], h⟩
    · rw [if_neg hx] at h; cases h

theorem globMatch_star {q : Path} (h : globMatch .star q = true) : ∃ a, q = [a] := by
  match q, h with
  | [a], _ => exact ⟨a, rfl⟩

theorem globMatch_starInit {q : Path} (h : globMatch .starInit q = true) : ∃ a, q = [a, "__init__"] := by
  match q, h with
  | [a, b], h => exact ⟨a, by rw [eq_of_beq (show (b == "__init__") = true from h)]⟩

theorem globMatch_ne {g : Glob} {q : Path} (h : globMatch g q = true) : q ≠ [] := by
  rintro rfl; cases g <;> cases h

theorem modParts_doc {p : Path} (h : 2 ≤ p.length) : modParts p = docName p := by
  unfold modParts docName isInit
  have h1 : ¬ p.length = 1 := by omega
  simp only [h1, if_false]
  by_cases hl : p.getLast? = some "__init__" <;> simp [hl, h]

theorem head_modParts {d : String} {q : Path} (hq : q ≠ []) : (modParts (d :: q)).head? = some d := by
  unfold modParts
  split
  · cases q with
    | nil => exact absurd rfl hq
    | cons x xs => rfl
  · rfl

theorem length_modParts_top {d : String} {q : Path} (hq : q ≠ []) : 1 ≤ (modParts (d :: q)).length :=
  List.length_pos_iff.mpr fun h => by simpa [h] using head_modParts (d := d) hq

theorem ctxName_doc {r : Row} {p : Path} (htop : r.dir = "" → r.glob = .star) (hm : matchRow r p = true) :
    ctxNameOf r.dir p = docName p := by
  by_cases hd : r.dir = ""
  · have hg := matchRow_top hd hm
    rw [htop hd] at hg
    obtain ⟨x, rfl⟩ := globMatch_star hg
    rw [hd]; rfl
  · obtain ⟨q, rfl, hq⟩ := matchRow_dir hd hm
    rw [ctxNameOf, if_neg hd]
    exact modParts_doc (by
      cases q with
      | nil => exact absurd rfl (globMatch_ne hq)
      | cons _ _ => simp)

theorem head_ctxNameOf {r : Row} {p : Path} (hm : matchRow r p = true) :
    (ctxNameOf r.dir p).head? = some (if r.dir = "" then "file" else r.dir) := by
  by_cases hd : r.dir = ""
  · simp only [ctxNameOf, hd, if_true, List.head?_cons]
  · obtain ⟨q, rfl, hq⟩ := matchRow_dir hd hm
    simp only [ctxNameOf, hd, if_false]
    exact head_modParts (globMatch_ne hq)

theorem head_of_isUnder {pre : String} {n : Name} (h : isUnder pre n = true) : n.head? = some pre := by
  simpa using (Bool.and_eq_true_iff.mp h).2

theorem dir_of_isUnder {r : Row} {p : Path} {pre : String} (hm : matchRow r p = true)
    (hu : isUnder pre (ctxNameOf r.dir p) = true) (hpre : pre ≠ "file") : r.dir = pre := by
  have hh := (head_ctxNameOf hm).symm.trans (head_of_isUnder hu)
  by_cases hd : r.dir = ""
  · rw [if_pos hd, Option.some.injEq] at hh; exact absurd hh.symm hpre
  · rw [if_neg hd, Option.some.injEq] at hh; exact hh

/-- modules are never auto-loaded (true for the extracted table, see `globRead_modules_not_auto`) -/
def ModsNotAuto (ents : List Entry) : Prop := ∀ e ∈ ents, e.autoload = true → isUnder "modules" e.name = false

theorem modsNotAuto_of_rows {rows : List Row} (hrows : ∀ r ∈ rows, r.dir = "modules" → r.autoload = false)
    (apps : AppsCfg) (files : List File) : ModsNotAuto (globRead rows apps files) := by
  intro e he ha
  obtain ⟨r, hr, f, _, hm, _, c, _, rfl⟩ := globRead_from rows apps files he
  rw [Bool.eq_false_iff]
  intro hu
  exact absurd (ha.symm.trans (hrows r hr (dir_of_isUnder hm hu (by decide)))) (by decide)

theorem apps_sound {r : Row} {apps : AppsCfg} {p : Path} {a : String} {c : Option Nat} (hc : r.checkConfig = true)
    (hmp : modParts p = ["apps", a]) (hd : r.dir = "apps") (hcfg : rowCfg r apps p = some c)
    (hauto : isAutoPath apps p = (apps.lookup a).isSome) :
    isAutoPath apps p = true ∧
      (isUnder "apps" (ctxNameOf r.dir p) = true → apps.lookup ((ctxNameOf r.dir p).getD 1 "") = some c) := by
  have hl : apps.lookup a = some c := by
    rw [rowCfg, if_pos hc, fqOf, hd, if_neg (by simp), hmp] at hcfg
    exact hcfg
  refine ⟨by rw [hauto, hl]; rfl, fun _ => ?_⟩
  rw [ctxNameOf, hd, if_neg (by simp), hmp]
  exact hl

/-- a row of one of the three auto-loading kinds (top level, `scripts`, a guarded `apps` row) lets only documented
files through, an app with its configuration value -/
theorem autoload_sound {r : Row} {f : File} {apps : AppsCfg} {c : Option Nat}
    (hrow : (r.dir = "" ∧ r.glob = .star) ∨ (r.dir = "scripts" ∧ r.glob = .deep) ∨
      (r.dir = "apps" ∧ r.checkConfig = true ∧ (r.glob = .starInit ∨ r.glob = .star)))
    (hm : matchRow r f.path = true) (hcfg : rowCfg r apps f.path = some c) (hedge : f.path ≠ ["apps", "__init__"]) :
    isAutoPath apps f.path = true ∧
      (isUnder "apps" (ctxNameOf r.dir f.path) = true → apps.lookup ((ctxNameOf r.dir f.path).getD 1 "") = some c) := by
  have hnot : r.dir ≠ "apps" → ¬ isUnder "apps" (ctxNameOf r.dir f.path) = true :=
    fun hd hu => hd (dir_of_isUnder hm hu (by decide))
  rcases hrow with ⟨hd, hg⟩ | ⟨hd, hg⟩ | ⟨hd, hc, hg⟩
  · refine ⟨?_, fun hu => absurd hu (hnot (by simp [hd]))⟩
    obtain ⟨x, hx⟩ := globMatch_star (hg ▸ matchRow_top hd hm)
    rw [hx]; rfl
  · refine ⟨?_, fun hu => absurd hu (hnot (by simp [hd]))⟩
    obtain ⟨q, hp, hq⟩ := matchRow_dir (by simp [hd]) hm
    obtain ⟨x, rest, rfl⟩ := List.exists_cons_of_ne_nil (globMatch_ne hq)
    rw [hp, hd]
    simp only [isAutoPath]
  · obtain ⟨q, hp, hq⟩ := matchRow_dir (by simp [hd]) hm
    rw [hd] at hp
    rw [hp] at hcfg ⊢
    rcases hg with hg | hg
    · obtain ⟨a, rfl⟩ := globMatch_starInit (hg ▸ hq)
      exact apps_sound (a := a) hc (by simp [modParts, isInit]) hd hcfg (by simp only [isAutoPath])
    · obtain ⟨a, rfl⟩ := globMatch_star (hg ▸ hq)
      have ha' : a ≠ "__init__" := fun h => hedge (h ▸ hp)
      refine apps_sound (a := a) hc ?_ hd hcfg (by simp only [isAutoPath])
      rw [modParts, if_neg]
      simp [isInit, ha']

/-- the tie (T): the model's reading of the extracted `load_paths` – fails to build when the table changes -/
theorem loadRows_eq : loadRows =
    [⟨"", .star, false, true⟩, ⟨"apps", .starInit, true, true⟩, ⟨"apps", .star, true, true⟩,
     ⟨"apps", .starDeep, false, false⟩, ⟨"modules", .starInit, false, false⟩, ⟨"modules", .star, false, false⟩,
     ⟨"modules", .starDeep, false, false⟩, ⟨"scripts", .deep, false, true⟩] := by rfl

theorem mem_loadRows {r : Row} : r ∈ loadRows ↔
    r = ⟨"", .star, false, true⟩ ∨ r = ⟨"apps", .starInit, true, true⟩ ∨ r = ⟨"apps", .star, true, true⟩ ∨
    r = ⟨"apps", .starDeep, false, false⟩ ∨ r = ⟨"modules", .starInit, false, false⟩ ∨
    r = ⟨"modules", .star, false, false⟩ ∨ r = ⟨"modules", .starDeep, false, false⟩ ∨ r = ⟨"scripts", .deep, false, true⟩ := by
  rw [loadRows_eq]
  simp only [List.mem_cons, List.mem_nil_iff, or_false]

theorem loadRows_shape : ∀ r ∈ loadRows, (r.dir = "" → r.glob = .star) ∧ (r.dir = "modules" → r.autoload = false) := by
  rw [loadRows_eq]; decide

theorem globRead_modules_not_auto (apps : AppsCfg) (files : List File) : ModsNotAuto (globRead loadRows apps files) :=
  modsNotAuto_of_rows (fun r hr => (loadRows_shape r hr).2) apps files

theorem loadRows_auto {r : Row} (hr : r ∈ loadRows) (ha : r.autoload = true) :
    (r.dir = "" ∧ r.glob = .star) ∨ (r.dir = "scripts" ∧ r.glob = .deep) ∨
      (r.dir = "apps" ∧ r.checkConfig = true ∧ (r.glob = .starInit ∨ r.glob = .star)) := by
  rcases mem_loadRows.mp hr with rfl | rfl | rfl | rfl | rfl | rfl | rfl | rfl
  · exact .inl ⟨rfl, rfl⟩
  · exact .inr (.inr ⟨rfl, rfl, .inl rfl⟩)
  · exact .inr (.inr ⟨rfl, rfl, .inr rfl⟩)
  · cases ha
  · cases ha
  · cases ha
  · cases ha
  · exact .inr (.inl ⟨rfl, rfl⟩)

theorem visible_row {apps : AppsCfg} {p : Path} (hv : isVisible apps p = true) :
    isCommented p = false ∧ ∃ r ∈ loadRows, matchRow r p = true ∧ (rowCfg r apps p).isSome = true := by
  unfold isVisible at hv
  rw [Bool.and_eq_true, Bool.not_eq_true'] at hv
  refine ⟨hv.1, ?_⟩
  replace hv := hv.2
  split at hv
  next x => exact ⟨⟨"", .star, false, true⟩, mem_loadRows.mpr (.inl rfl), rfl, rfl⟩
  next x rest =>
    exact ⟨⟨"scripts", .deep, false, true⟩, mem_loadRows.mpr (by simp only [eq_self, or_true]),
      matchRow_cons (by simp) _, rfl⟩
  next a =>
    simp only [Bool.and_eq_true, bne_iff_ne, ne_eq] at hv
    exact ⟨⟨"apps", .star, true, true⟩, mem_loadRows.mpr (by simp only [eq_self, or_true, true_or]),
      matchRow_cons (by simp) _, by simpa [rowCfg, fqOf, modParts, isInit, hv.1] using hv.2⟩
  next a b rest =>
    exact ⟨⟨"apps", .starDeep, false, false⟩, mem_loadRows.mpr (by simp only [eq_self, or_true, true_or]),
      matchRow_cons (by simp) _, rfl⟩
  next a rest =>
    cases rest with
    | nil =>
      exact ⟨⟨"modules", .star, false, false⟩, mem_loadRows.mpr (by simp only [eq_self, or_true, true_or]),
        matchRow_cons (by simp) _, rfl⟩
    | cons b rest =>
      exact ⟨⟨"modules", .starDeep, false, false⟩, mem_loadRows.mpr (by simp only [eq_self, or_true, true_or]),
        matchRow_cons (by simp) _, rfl⟩
  next => cases hv

end PsModel.C10
